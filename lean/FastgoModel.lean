import FastgoModel.Spec.Bits
import FastgoModel.Spec.Huffman
import FastgoModel.Spec.Inflate
import FastgoModel.Spec.Checks
import FastgoModel.Spec.Checksum
import FastgoModel.Writer.Control
import FastgoModel.Writer.BlockCheck
import FastgoModel.Writer.Example
import FastgoModel.Writer.HuffControl
import FastgoModel.Writer.HuffReplay
import FastgoModel.Writer.Replay
import FastgoModel.Writer.Tokens
import FastgoModel.Reader.Source
import FastgoModel.Reader.Control
import FastgoModel.Reader.Example
import FastgoModel.Reader.FaithfulCheck
import FastgoModel.Reader.Replay
import FastgoModel.Container.Gzip
import FastgoModel.Container.Zlib
import FastgoModel.Container.Digest
import FastgoModel.Container.Readers
import FastgoModel.Container.Members
import FastgoModel.Container.WriterWrap
import FastgoModel.Gen.Facts
import FastgoModel.Proofs.StreamCompose
import FastgoModel.Proofs.BitsBytes
import FastgoModel.Proofs.CanonicalPF
import FastgoModel.Proofs.FixedCode
import FastgoModel.Proofs.BlockFrame
import FastgoModel.Proofs.Bufio
import FastgoModel.Proofs.ContainerReaders
import FastgoModel.Proofs.DistTable
import FastgoModel.Proofs.ReaderSteps
import FastgoModel.Proofs.ReaderControl
import FastgoModel.Proofs.ReaderProps
import FastgoModel.Proofs.ReaderDelivery
import FastgoModel.Proofs.FaithfulInstance
import FastgoModel.Proofs.GzipHeader
import FastgoModel.Proofs.WriterControl
import FastgoModel.Proofs.WriterAppend
import FastgoModel.Proofs.WriterStream
import FastgoModel.Proofs.HuffStream
import FastgoModel.Proofs.SoundInstance
import FastgoModel.Proofs.HuffInstance
import FastgoModel.Proofs.ZlibHeader
import FastgoModel.Proofs.StreamFrame
import FastgoModel.Proofs.WriterWrap
import FastgoModel.Proofs.RoundTrip
import FastgoModel.Proofs.TokenCheck
import FastgoModel.Props.Examples
import FastgoModel.Props.C01
import FastgoModel.Props.C05
import FastgoModel.Props.C02
import FastgoModel.Props.C03
import FastgoModel.Props.C04
import FastgoModel.Props.C06
import FastgoModel.Props.C07
import FastgoModel.Props.C08
import FastgoModel.Props.C09
import FastgoModel.Props.C10
import FastgoModel.Props.C11
import FastgoModel.Props.C12
import FastgoModel.Props.C13
import FastgoModel.Props.C14
import FastgoModel.Props.C15
import FastgoModel.Props.C16
import FastgoModel.Props.C17
import FastgoModel.Props.C18
import FastgoModel.Props.C19
import FastgoModel.Props.C20
/-
  Every module of the library, in an order in which each comes after what it imports: the specification (Spec), the
  control models (Writer, Reader, Container), the facts regenerated from the Go source (Gen), the lemmas (Proofs) and the
  property theorems (Props, C01–C20). `Driver/Main.lean` is the root of the executable `fgmodel`.
-/
