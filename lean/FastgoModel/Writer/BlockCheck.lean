import FastgoModel.Spec.Checks
import FastgoModel.Writer.Control
/-
  The check the E correspondence applies to every recorded call of a real block encoder. That a passed check gives the
  `enc` clause of the leaf contract `Writer.Sound` for that call is proved in Proofs/BlockFrame.lean (`checkEnc_gives_enc`).
-/
namespace Fastgo.Spec
open Fastgo.Writer

/-- the check applied to every recorded call of a real block encoder (correspondence kind E): `out` are the
    bytes it handed to the destination, `carry` / `carry'` the bits left in the bit buffer before / after; `h` is the
    data of the stream encoded before this block, `x` the data this block stands for. -/
def checkEnc (mode : Mode) (pos : Nat) (carry : Bits) (out : List UInt8) (carry' : Bits) (final : Bool)
    (h : Array UInt8) (x : List UInt8) : Bool :=
  let all := bytesToBits out ++ carry'
  decide (all.take carry.length = carry) && carry.length ≤ all.length &&
  (if final then
    carry'.isEmpty &&
      (match inflateBlock mode pos (all.drop carry.length) h {} with
       | .next _ _ r _ =>
          let B := (all.drop carry.length).take ((all.drop carry.length).length - r.length)
          decide (r.length ≤ (all.drop carry.length).length) &&
          decide (all.drop carry.length = B ++ List.replicate (padLen (carry ++ B).length) false) &&
          checkBlock mode pos B true h x
       | _ => false)
   else checkBlock mode pos (all.drop carry.length) false h x)

end Fastgo.Spec
