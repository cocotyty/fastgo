import FastgoModel.Writer.HuffControl
/-
  The block encoder of the H correspondence: it replays the destination writes the real encoder was recorded to make.
-/
namespace Fastgo.Writer
open Fastgo.Spec

/-- replayed leaf: the log holds, per destination write the real encoder made inside encodeBlock, its size -/
structure HLog where
  log : List (List Nat)
  bad : Option String := none

def replayHuff (log : List (List Nat)) : HuffLeaf HLog where
  init := { log := log }
  encode := fun st _ _ carry =>
    match st.log with
    | sizes :: rest => (sizes.map fun n => List.replicate n 0, carry, { st with log := rest })
    | [] => ([], carry, { st with bad := some "a block was encoded but the code encoded none here" })

end Fastgo.Writer
