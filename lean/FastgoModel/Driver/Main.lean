import FastgoModel.Spec.Inflate
import FastgoModel.Writer.Replay
import FastgoModel.Container.Members
import FastgoModel.Reader.Replay
import FastgoModel.Writer.Tokens
import FastgoModel.Writer.HuffReplay
import FastgoModel.Container.WriterWrap
import FastgoModel.Writer.BlockCheck
import FastgoModel.Reader.FaithfulCheck
import FastgoModel.Spec.Checks
/-
  Line-protocol driver of the executable models (`lake build fgmodel`).
  One case per input line, one answer line per case. Bytes travel as lowercase hex.
-/
open Fastgo Fastgo.Spec Fastgo.Writer Fastgo.Container Fastgo.Reader Fastgo.CWriter

def hexVal (c : Char) : Option Nat :=
  if '0' ≤ c ∧ c ≤ '9' then some (c.toNat - '0'.toNat)
  else if 'a' ≤ c ∧ c ≤ 'f' then some (c.toNat - 'a'.toNat + 10)
  else none

def parseHex (s : String) : Option (List UInt8) :=
  let rec go : List Char → List UInt8 → Option (List UInt8)
    | [], acc => some acc.reverse
    | [_], _ => none
    | a :: b :: r, acc =>
      match hexVal a, hexVal b with
      | some x, some y => go r (UInt8.ofNat (x * 16 + y) :: acc)
      | _, _ => none
  if s = "-" then some [] else go s.toList []

def hexDigit (n : Nat) : Char :=
  if n < 10 then Char.ofNat ('0'.toNat + n) else Char.ofNat ('a'.toNat + n - 10)

def toHex (bs : Array UInt8) : String :=
  String.ofList (bs.toList.flatMap fun b => [hexDigit (b.toNat / 16), hexDigit (b.toNat % 16)])

/-- FNV-1a 64 over the output, so that long outputs are compared without being printed -/
def fnv (bs : Array UInt8) : UInt64 :=
  bs.foldl (fun h b => (h ^^^ b.toUInt64) * 1099511628211) 14695981039346656037

def statsStr (st : Stats) : String :=
  s!"blocks={st.stored + st.fixed + st.dynamic} lits={st.lits} refs={st.refs} maxdist={st.maxDist}"

def answerInflate (mode : Mode) (dict stream : List UInt8) : String :=
  let total := 8 * stream.length
  let strip := fun (out : Array UInt8) => out.extract dict.length out.size
  match inflate mode dict stream with
  | .done out rest st =>
    let o := strip out
    s!"done n={o.size} h={fnv o} endbit={total - rest.length} {statsStr st}"
  | .needMore out _ st atStart =>
    let o := strip out
    s!"needmore n={o.size} h={fnv o} atblockstart={atStart} {statsStr st}"
  | .corrupt out _ st =>
    let o := strip out
    s!"corrupt n={o.size} h={fnv o} {statsStr st}"

/-! ### W: the Writer control model with replayed leaves -/

def parseNat! (s : String) : Nat := s.toNat?.getD 0

def parseEv (s : String) : Option Ev :=
  match s.splitOn ":" with
  | ["g", fl, e, p, i, tin, nidx, tout] =>
    some (.g (fl = "1") (parseNat! e) (parseNat! p) (parseNat! i) (parseNat! tin) (parseNat! nidx) (parseNat! tout))
  | ["d", size, tok] => some (.d (parseNat! size) (parseNat! tok))
  | ["r"] => some .r
  | _ => none

def parseOp (s : String) : Option Writer.Op :=
  if s = "f" then some .flush
  else if s = "c" then some .close
  else if s = "r" then some (.reset { fail := fun _ => false })
  else if s.startsWith "w" then some (.write (List.replicate (parseNat! (s.drop 1).toString) 0))
  else if s.startsWith "x" then (parseHex (s.drop 1).toString).map .write
  else none

def errStr : Option Writer.Err → String
  | none => "ok"
  | some .injected => "injected"
  | some .closed => "closed"

def answerW (window maxTok : Nat) (fails : List Nat) (ops : List Writer.Op) (log : List Ev) : String :=
  let L := replayLeaves log
  let c : Writer.Cfg := { window := window, maxTok := maxTok }
  let w0 : WState RMF Unit := WState.init L { fail := fun k => fails.contains k }
  let rec go (w : WState RMF Unit) (ops : List Writer.Op) (acc : List String) : WState RMF Unit × List String :=
    match ops with
    | [] => (w, acc.reverse)
    | op :: rest =>
      let (w1, r) := Writer.step L c w op
      let line := s!"{r.n},{errStr r.err},{w1.dyn.idx},{w1.dyn.buf.length},{w1.dyn.processed},{w1.dyn.tokens.length},{w1.dst.calls}"
      go w1 rest (line :: acc)
  let (w, lines) := go w0 ops []
  let bad := match w.dyn.mf.bad with | none => "-" | some m => m
  s!"{String.intercalate ";" lines} left={(takeChunks w.dyn.mf.log).2.length} bad={bad}"

/-! ### H: the Huffman-only control model with a replayed block encoder -/

def answerH (max : Nat) (fails : List Nat) (ops : List Writer.Op) (blocks : List (List Nat)) : String :=
  let L := replayHuff blocks
  let w0 : HState HLog := HState.init L { fail := fun k => fails.contains k }
  let rec go (w : HState HLog) (ops : List Writer.Op) (acc : List String) : HState HLog × List String :=
    match ops with
    | [] => (w, acc.reverse)
    | op :: rest =>
      let (w1, r) := hStep L max w op
      go w1 rest (s!"{r.n},{errStr r.err},{w1.huff.buf.length},{w1.dst.calls}" :: acc)
  let (w, lines) := go w0 ops []
  let bad := match w.huff.ls.bad with | none => "-" | some m => m
  s!"{String.intercalate ";" lines} left={w.huff.ls.log.length} bad={bad}"

/-! ### ZW / GW: the zlib and gzip Writer models over the flate Writer control model with replayed leaves -/

def wrapLine (first : Bool) (op : Writer.Op) (r : OpRes) (w : WState RMF Unit) : String :=
  let base := s!"{r.n},{errStr r.err},{w.dyn.idx},{w.dyn.buf.length},{w.dyn.processed},{w.dyn.tokens.length},{w.dst.calls}"
  let isClose := match op with | .close => true | _ => false
  let hx := fun (bs : List UInt8) => if bs.isEmpty then "-" else toHex bs.toArray
  if isClose && r.err.isNone then s!"{base},t={hx (w.dst.got.headD [])}"
  else if first then s!"{base},h={hx w.dst.bytes}"
  else base

def answerZW (level : Int) (window maxTok : Nat) (fails : List Nat) (ops : List Writer.Op) (log : List Ev) : String :=
  let L := replayLeaves log
  let c : Writer.Cfg := { window := window, maxTok := maxTok }
  let O := dynOps L c
  let z0 : ZW (WState RMF Unit) := ZW.init (WState.init L { fail := fun k => fails.contains k }) level
  let rec go (z : ZW (WState RMF Unit)) (ops : List Writer.Op) (acc : List String) : ZW (WState RMF Unit) × List String :=
    match ops with
    | [] => (z, acc.reverse)
    | op :: rest =>
      let (z1, r) := zStep O z op
      go z1 rest (wrapLine acc.isEmpty op r z1.inner :: acc)
  let (z, lines) := go z0 ops []
  let bad := match z.inner.dyn.mf.bad with | none => "-" | some m => m
  s!"{String.intercalate ";" lines} left={(takeChunks z.inner.dyn.mf.log).2.length} bad={bad}"

def answerGW (level : Int) (window maxTok : Nat) (fails : List Nat) (h : GzHeader) (ops : List Writer.Op) (log : List Ev) : String :=
  let L := replayLeaves log
  let c : Writer.Cfg := { window := window, maxTok := maxTok }
  let O := dynOps L c
  let z0 : GW (WState RMF Unit) := GW.init (WState.init L { fail := fun k => fails.contains k }) level h
  let rec go (z : GW (WState RMF Unit)) (ops : List Writer.Op) (acc : List String) : GW (WState RMF Unit) × List String :=
    match ops with
    | [] => (z, acc.reverse)
    | op :: rest =>
      let (z1, r) := gStep O z op
      go z1 rest (wrapLine acc.isEmpty op r z1.inner :: acc)
  let (z, lines) := go z0 ops []
  let bad := match z.inner.dyn.mf.bad with | none => "-" | some m => m
  s!"{String.intercalate ";" lines} left={(takeChunks z.inner.dyn.mf.log).2.length} bad={bad}"

/-! ### G: leaf-contract check of one recorded match-finder call -/

def parseTok (s : String) : Option RTok :=
  if s.startsWith "l" then some (.lit (UInt8.ofNat (parseNat! (s.drop 1).toString)))
  else if s.startsWith "p" then
    match (s.drop 1).toString.splitOn "." with
    | [a, b] => some (.lit2 (UInt8.ofNat (parseNat! a)) (UInt8.ofNat (parseNat! b)))
    | _ => none
  else if s.startsWith "m" then
    match (s.drop 1).toString.splitOn "." with
    | [l, dd] => some (.mtch (parseNat! l) (parseNat! dd))
    | _ => none
  else none

/-- diagnostic only: index of the first token at which the check fails -/
def firstBadTok (window : Nat) (buf : Array UInt8) (stop : Nat) : Nat → Nat → List RTok → String
  | pos, i, [] => if pos == stop then "ok" else s!"bad: tokens end at {pos}, the call reported {stop}"
  | pos, i, t :: ts =>
    if checkGen window buf stop pos [t] || checkGen window buf (pos + (match t with | .lit _ => 1 | .lit2 _ _ => 2 | .mtch l _ => l)) pos [t] then
      firstBadTok window buf stop (pos + (match t with | .lit _ => 1 | .lit2 _ _ => 2 | .mtch l _ => l)) (i + 1) ts
    else s!"bad: token {i} ({repr t}) at buffer position {pos}"

def answerG (window pos stop : Nat) (buf : List UInt8) (toks : List RTok) : String :=
  let b := buf.toArray
  if stop ≤ b.size && checkGen window b stop pos toks then "ok"
  else if stop > b.size then "bad: stop beyond the buffer"
  else firstBadTok window b stop pos 0 toks


/-! ### E: one recorded call of a real block encoder, checked by `checkEnc` (Writer/BlockCheck.lean; its meaning: Proofs/BlockFrame.lean) -/

def parseBits (s : String) : Option Bits :=
  if s = "-" then some []
  else if s.toList.all (fun c => c = '0' || c = '1') then some (s.toList.map (· = '1')) else none

def answerE (pos : Nat) (carry : Bits) (out : List UInt8) (carry' : Bits) (final : Bool) (h x : List UInt8) : String :=
  let ha := h.toArray
  if checkEnc .strict pos carry out carry' final ha x then "ok"
  else
    let all := bytesToBits out ++ carry'
    if all.take carry.length != carry then "bad: the bits handed out do not begin with the old carry"
    else
      let B := all.drop carry.length
      match inflateBlock .strict pos B ha {} with
      | .needMore o _ _ _ => s!"bad: the block's bits end before the block does (decoded {o.size - ha.size} of {x.length} bytes)"
      | .corrupt o _ _ => s!"bad: the specification inflater rejects the block after {o.size - ha.size} of {x.length} bytes"
      | .next f o r _ =>
        if f != final then s!"bad: BFINAL is {f}, expected {final}"
        else if o != ha ++ x.toArray then s!"bad: the block decodes to other bytes than the data it stands for (n={o.size - ha.size}, expected {x.length})"
        else if !final && !r.isEmpty then s!"bad: {r.length} bits after the end-of-block code of a non-final block"
        else if final && (r.length ≥ 8 || r.any id) then s!"bad: final block followed by {r.length} bits that are not byte padding"
        else if final && !carry'.isEmpty then "bad: bits left in the bit buffer after the final block"
        else if !blockCodesPF .strict B then "bad: a declared Huffman code is not prefix-free"
        else "bad: checkEnc rejects"


/-! ### F: one complete session of the real Reader judged by the specification inflater (`checkFaithful`) -/

def verdictStr (r : Result) : String :=
  match r with
  | .done o rest _ => s!"done n={o.size} restbits={rest.length}"
  | .needMore o _ _ _ => s!"needmore n={o.size}"
  | .corrupt o _ _ => s!"corrupt n={o.size}"

def answerF (src delivered : List UInt8) (k : String) (consumed : Nat) (cut : Bool) : String :=
  let kind : Option EndKind := if k = "EOF" then some .eof else if k = "UnexpectedEOF" then some .unexpectedEOF
    else if k = "Corrupt" then some .corrupt else none
  match kind with
  | none => s!"bad: the Reader ended with {k}"
  | some kd =>
    if checkFaithful src delivered kd consumed cut then "ok"
    else
      let p := inflate .permissive [] src
      let st := inflate .strict [] src
      let pre := delivered.isPrefixOf p.out.toList
      s!"bad: Reader ended with {k} after {delivered.length} bytes (prefix-of-spec-output={pre}), consumed={consumed} cut-of-valid={cut}; spec permissive: {verdictStr p} (consumed-at-eof={consumedAtEOF src p}); strict: {verdictStr st}"


/-! ### S: a whole stream a real Writer emitted, checked by `checkStream` (Spec/Checks.lean; its meaning: Proofs/StreamFrame.lean) -/

def answerS (stream data : List UInt8) : String :=
  if !checkStream .strict stream then
    s!"bad: checkStream rejects ({verdictStr (inflate .strict [] stream)})"
  else
    match inflate .strict [] stream with
    | .done out _ _ => if out.toList == data then "ok" else s!"bad: decodes to {out.size} bytes that are not the {data.length} bytes written"
    | r => s!"bad: {verdictStr r}"

/-! ### FG: a whole gzip file read by the Reader model over the specification inflater -/

def answerFG (file : List UInt8) (k : String) (n : Nat) (h : String) : String :=
  let p := readAllMembers (specInflater .permissive) (file.length + 1) file
  let q := readAllMembers (specInflater .strict) (file.length + 1) file
  let sh := fun (o : Option (List UInt8)) => match o with
    | some d => s!"ok n={d.length} h={fnv d.toArray}"
    | none => "error"
  let same := fun (o : Option (List UInt8)) => match o with
    | some d => d.length == n && s!"{fnv d.toArray}" == h
    | none => false
  if k = "EOF" then
    if same q || same p then "ok" else s!"bad: Reader ended with io.EOF after {n} bytes; model strict: {sh q}; permissive: {sh p}"
  else
    if q.isNone then "ok" else s!"bad: Reader ended with {k} after {n} bytes; model strict: {sh q}"


/-! ### FZ: a whole zlib stream (+ what follows) read by the Reader model over the specification inflater -/

def answerFZ (file : List UInt8) (k : String) (n : Nat) (h : String) (left : Nat) : String :=
  let p := readZlib (specInflater .permissive) file
  let q := readZlib (specInflater .strict) file
  let sh := fun (o : Option (List UInt8 × List UInt8)) => match o with
    | some (d, r) => s!"ok n={d.length} h={fnv d.toArray} left={r.length}"
    | none => "error"
  let same := fun (o : Option (List UInt8 × List UInt8)) => match o with
    | some (d, r) => d.length == n && s!"{fnv d.toArray}" == h && r.length == left
    | none => false
  if k = "EOF" then
    if same q || same p then "ok" else s!"bad: Reader ended with io.EOF after {n} bytes, {left} bytes left in the source; model strict: {sh q}; permissive: {sh p}"
  else
    if q.isNone then "ok" else s!"bad: Reader ended with {k} after {n} bytes; model strict: {sh q}"

/-! ### containers and checksums -/

def hexL (bs : List UInt8) : String := if bs.isEmpty then "-" else toHex bs.toArray

def parseInt! (s : String) : Int :=
  if s.startsWith "-" then - (Int.ofNat (parseNat! (s.drop 1).toString)) else Int.ofNat (parseNat! s)

def optHex (s : String) : Option (Option (List UInt8)) :=
  if s = "-" then some none
  else if s = "e" then some (some [])
  else (parseHex s).map some

def showOpt : Option (List UInt8) → String
  | none => "-"
  | some [] => "e"
  | some bs => toHex bs.toArray

def answerGP (bs : List UInt8) : String :=
  match parseHeader bs with
  | .ok h rest => s!"ok {h.mtime} {h.os.toNat} {showOpt h.extra} {hexL h.name} {hexL h.comment} {rest.length}"
  | .cleanEOF => "cleaneof"
  | .unexpectedEOF => "unexpectedeof"
  | .badHeader => "badheader"

def answerZP (dict : Option (List UInt8)) (bs : List UInt8) : String :=
  match parseZHeader dict bs with
  | .ok hd rest => s!"ok {hd} {rest.length}"
  | .unexpectedEOF => "unexpectedeof"
  | .badHeader => "badheader"
  | .badDict => "baddict"

/-! ### R: the Reader control model with a replayed decoder -/

def parseChunk (s : String) : Option Chunk :=
  match s.splitOn ":" with
  | ["c", n] => some { bytes := List.replicate (parseNat! n) 0 }
  | ["c", n, "e"] => some { bytes := List.replicate (parseNat! n) 0, err := some .eof }
  | ["c", n, f] => some { bytes := List.replicate (parseNat! n) 0, err := some (.fail (parseNat! (f.drop 1).toString)) }
  | _ => none

def parseStatus (s : String) : DStatus :=
  if s = "endinput" then .needInput else if s = "outfull" then .outFull else if s = "invalid" then .invalid else .done

def parseDEv (s : String) : Option DEv :=
  match s.splitOn ":" with
  | [ib, bb, ia, ba, p, st, en] =>
    some { inBefore := parseNat! ib, bitsBefore := parseNat! bb, inAfter := parseNat! ia, bitsAfter := parseNat! ba,
           produced := parseNat! p, status := parseStatus st, ended := en = "1" }
  | _ => none

def reStr : Option RE → String
  | none => "ok"
  | some .eof => "EOF"
  | some .unexpectedEOF => "UnexpectedEOF"
  | some .corrupt => "Corrupt"
  | some (.src .eof) => "EOF"
  | some (.src (.fail id)) => s!"src{id}"

def answerR (size : Nat) (chunks : List Chunk) (reads : List Nat) (log : List DEv) : String :=
  let D := replayDecoder log
  let r0 : RState RDec := RState.init D { size := size, src := chunks }
  let rec go (r : RState RDec) (reads : List Nat) (acc : List String) : RState RDec × List String :=
    match reads with
    | [] => (r, acc.reverse)
    | w :: rest =>
      match Reader.read D (r.bio.fuel + log.length + 8) r w with
      | (r1, .data bs e) => go r1 rest (s!"{bs.length},{reStr e}" :: acc)
      | (r1, .blocked) => (r1, ("blocked" :: acc).reverse)
      | (r1, .outOfFuel) => (r1, ("outoffuel" :: acc).reverse)
  let (r, lines) := go r0 reads []
  let bad := match r.dec.bad with | none => "-" | some m => m
  s!"{String.intercalate ";" lines} taken={r.bio.taken} left={r.dec.log.length} bad={bad}"

def step (line : String) : String :=
  match (line.trimAscii.toString.splitOn " ") with
  | ["I", mode, dict, stream] =>
    match parseHex dict, parseHex stream with
    | some d, some s =>
      let m := if mode = "strict" then Mode.strict else Mode.permissive
      answerInflate m d s
    | _, _ => "bad-hex"
  | ["W", window, maxTok, fails, ops, evs] =>
    let fl := if fails = "-" then [] else (fails.splitOn ",").map parseNat!
    let os := (ops.splitOn ",").filterMap parseOp
    let es := if evs = "-" then [] else (evs.splitOn ";").filterMap parseEv
    answerW (parseNat! window) (parseNat! maxTok) fl os es
  | ["H", max, fails, ops, blocks] =>
    let fl := if fails = "-" then [] else (fails.splitOn ",").map parseNat!
    let os := (ops.splitOn ",").filterMap parseOp
    let bs := if blocks = "-" then [] else (blocks.splitOn ";").map fun b => (b.splitOn ".").map parseNat!
    answerH (parseNat! max) fl os bs
  | ["ZW", level, window, maxTok, fails, ops, evs] =>
    let fl := if fails = "-" then [] else (fails.splitOn ",").map parseNat!
    let os := (ops.splitOn ",").filterMap parseOp
    let es := if evs = "-" then [] else (evs.splitOn ";").filterMap parseEv
    answerZW (parseInt! level) (parseNat! window) (parseNat! maxTok) fl os es
  | ["GW", level, window, maxTok, fails, extra, name, comment, ops, evs] =>
    match optHex extra, parseHex name, parseHex comment with
    | some e, some n, some cm =>
      let fl := if fails = "-" then [] else (fails.splitOn ",").map parseNat!
      let os := (ops.splitOn ",").filterMap parseOp
      let es := if evs = "-" then [] else (evs.splitOn ";").filterMap parseEv
      answerGW (parseInt! level) (parseNat! window) (parseNat! maxTok) fl { extra := e, name := n, comment := cm } os es
    | _, _, _ => "bad-hex"
  | ["G", window, pos, stop, buf, toks] =>
    match parseHex buf with
    | some b =>
      let ts := (if toks = "-" then [] else toks.splitOn ",").map parseTok
      if ts.any Option.isNone then "bad-token" else answerG (parseNat! window) (parseNat! pos) (parseNat! stop) b (ts.filterMap id)
    | none => "bad-hex"
  | ["E", pos, carry, out, carry', final, h, x] =>
    match parseBits carry, parseHex out, parseBits carry', parseHex h, parseHex x with
    | some c, some o, some c', some hh, some xx => answerE (parseNat! pos) c o c' (final = "1") hh xx
    | _, _, _, _, _ => "bad-hex"
  | ["F", src, delivered, k, consumed, cut] =>
    match parseHex src, parseHex delivered with
    | some a, some b => answerF a b k (parseNat! consumed) (cut = "1")
    | _, _ => "bad-hex"
  | ["S", stream, data] =>
    match parseHex stream, parseHex data with
    | some a, some b => answerS a b
    | _, _ => "bad-hex"
  | ["FZ", file, k, n, h, left] =>
    match parseHex file with
    | some a => answerFZ a k (parseNat! n) h (parseNat! left)
    | none => "bad-hex"
  | ["FG", file, k, n, h] =>
    match parseHex file with
    | some a => answerFG a k (parseNat! n) h
    | none => "bad-hex"
  | ["R", size, chunks, reads, evs] =>
    let cs := (if chunks = "-" then [] else chunks.splitOn ";").filterMap parseChunk
    let rs := (reads.splitOn ",").map parseNat!
    let es := (if evs = "-" then [] else evs.splitOn ";").filterMap parseDEv
    answerR (parseNat! size) cs rs es
  | ["K", "crc", data] =>
    match parseHex data with
    | some d => s!"{(crc32 d).toNat}"
    | none => "bad-hex"
  | ["K", "adler", data] =>
    match parseHex data with
    | some d => s!"{adler32 d}"
    | none => "bad-hex"
  | ["GH", level, mtime, os, extra, name, comment] =>
    match optHex extra, parseHex name, parseHex comment with
    | some e, some n, some c =>
      hexL (emitHeader { extra := e, name := n, comment := c, mtime := parseNat! mtime, os := UInt8.ofNat (parseNat! os) } (parseInt! level))
    | _, _, _ => "bad-hex"
  | ["GP", data] =>
    match parseHex data with
    | some d => answerGP d
    | none => "bad-hex"
  | ["GT", writes] =>
    let ws := (if writes = "-" then [] else writes.splitOn ";").filterMap parseHex
    hexL (ws.foldl GzSum.update {}).trailer
  | ["ZH", level, dict] =>
    match optHex dict with
    | some d => hexL (emitZHeader (parseInt! level) d)
    | none => "bad-hex"
  | ["ZP", dict, data] =>
    match optHex dict, parseHex data with
    | some dd, some d => answerZP dd d
    | _, _ => "bad-hex"
  | ["ZT", writes] =>
    let ws := (if writes = "-" then [] else writes.splitOn ";").filterMap parseHex
    hexL (be (adlerValue (ws.foldl adlerUpdate (1, 0))) 4)
  | _ => "bad-op"

partial def loop (h : IO.FS.Stream) (out : IO.FS.Stream) : IO Unit := do
  let line ← h.getLine
  if line.isEmpty then return ()
  out.putStrLn (step line)
  out.flush
  loop h out

def main : IO Unit := do
  loop (← IO.getStdin) (← IO.getStdout)
