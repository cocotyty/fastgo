import FastgoModel.Writer.Control
/-
  Lemmas about the Writer control model: the error/closed protocol (C14, C16).
-/
namespace Fastgo.Writer

variable {MF Tok : Type}

/-- abstract protocol state of a Writer -/
inductive PState | opened | closed | failed
  deriving DecidableEq, Repr

def absState (w : WState MF Tok) : PState :=
  match w.err with
  | none => .opened
  | some .closed => .closed
  | some .injected => .failed

theorem write_of_err (L : DynLeaves MF Tok) (c : Cfg) (w : WState MF Tok) {e : Err} (h : w.err = some e)
    (data : List UInt8) : write L c w data = (w, { n := 0, err := some e }) := by
  unfold write; rw [h]

theorem flush_of_err (L : DynLeaves MF Tok) (c : Cfg) (w : WState MF Tok) {e : Err} (h : w.err = some e) :
    flush L c w = (w, { err := some e }) := by
  unfold flush; rw [h]

theorem close_of_injected (L : DynLeaves MF Tok) (c : Cfg) (w : WState MF Tok) (h : w.err = some .injected) :
    close L c w = (w, { err := some .injected }) := by
  unfold close; rw [h]

theorem close_of_closed (L : DynLeaves MF Tok) (c : Cfg) (w : WState MF Tok) (h : w.err = some .closed) :
    close L c w = (w, {}) := by
  unfold close; rw [h]

/-- `d'` is `d` after some more calls, none of which failed -/
def NoFail (d d' : Dst) : Prop :=
  d'.fail = d.fail ∧ d.calls ≤ d'.calls ∧ ∀ k, d.calls ≤ k → k < d'.calls → d.fail k = false

theorem NoFail.refl (d : Dst) : NoFail d d := ⟨rfl, Nat.le_refl _, fun k h1 h2 => absurd h2 (by omega)⟩

theorem NoFail.trans {a b c : Dst} (h1 : NoFail a b) (h2 : NoFail b c) : NoFail a c := by
  refine ⟨h2.1.trans h1.1, Nat.le_trans h1.2.1 h2.2.1, fun k hk1 hk2 => ?_⟩
  by_cases hk : k < b.calls
  · exact h1.2.2 k hk1 hk
  · have := h2.2.2 k (by omega) hk2
    rw [h1.1] at this; exact this

theorem write_true_noFail {d : Dst} {chunk : List UInt8} {d1 : Dst} (h : d.write chunk = (d1, true)) : NoFail d d1 := by
  unfold Dst.write at h
  split at h
  · cases h
  · rename_i hf
    cases h
    refine ⟨rfl, Nat.le_succ _, fun k h1 h2 => ?_⟩
    have : k = d.calls := by dsimp only at h2; omega
    subst this; simpa using hf

theorem writeAll_true_noFail {d : Dst} {cs : List (List UInt8)} {d1 : Dst} (h : d.writeAll cs = (d1, true)) : NoFail d d1 := by
  induction cs generalizing d with
  | nil => cases h; exact .refl _
  | cons c cs ih =>
    unfold Dst.writeAll at h
    split at h
    · rename_i d2 hw
      exact (write_true_noFail hw).trans (ih h)
    · cases h

theorem compressBlock_ok_noFail {L : DynLeaves MF Tok} {c : Cfg} {fl fin : Bool} {fuel : Nat}
    {s : Dyn MF Tok} {d : Dst} {r : Dyn MF Tok × Dst × Outcome}
    (hr : compressBlock L c fl fin fuel s d = r) (h : r.2.2 = .ok) : NoFail d r.2.1 := by
  fun_induction compressBlock L c fl fin fuel s d
  case case2 hw => subst hr; exact write_true_noFail hw          -- the final empty block was written
  case case4 => subst hr; exact .refl _                                -- too few tokens for a block
  case case6 hwa _ _ => subst hr; exact writeAll_true_noFail hwa -- a block was written, the buffer is used up
  case case7 hwa _ _ ih => exact (writeAll_true_noFail hwa).trans (ih hr)  -- a block was written, again
  -- out of fuel (case1), or the destination refused a write (case3, case5)
  all_goals subst hr; cases h

/-- `r` is a possible result of an operation started on destination `d`: it returns nil, every destination call it
    made succeeded and it leaves `e` as the stored error; or it returns the destination's error and has stored it -/
def Ran (e : Option Err) (d : Dst) (r : WState MF Tok × OpRes) : Prop :=
  (r.2.err = none ∧ r.1.err = e ∧ NoFail d r.1.dst) ∨ (r.2.err = some .injected ∧ r.1.err = some .injected)

theorem Ran.ok {e : Option Err} {d : Dst} {r : WState MF Tok × OpRes} (h : Ran e d r) (hok : r.2.err = none) :
    r.1.err = e ∧ NoFail d r.1.dst := by
  rcases h with ⟨_, h⟩ | ⟨h, _⟩
  · exact h
  · rw [hok] at h; cases h

theorem Ran.proto {e : Option Err} {d : Dst} {r : WState MF Tok × OpRes} (h : Ran e d r) :
    (r.2.err = none ∧ absState r.1 = absState { r.1 with err := e }) ∨
    (r.2.err = some .injected ∧ absState r.1 = .failed) :=
  h.imp (fun h => ⟨h.1, by rw [absState, absState, h.2.1]⟩) (fun h => ⟨h.1, by rw [absState, h.2]⟩)

theorem writeLoop_ran (L : DynLeaves MF Tok) (c : Cfg) (fuel : Nat) (w : WState MF Tok) (data : List UInt8) (num : Nat) :
    Ran w.err w.dst (writeLoop L c fuel w data num) := by
  fun_induction writeLoop L c fuel w data num
  case case3 hcb _ =>       -- the full buffer was compressed, but nothing could be copied
    exact .inl ⟨rfl, rfl, compressBlock_ok_noFail hcb rfl⟩
  case case4 hcb _ _ ih =>  -- the full buffer was compressed: go on with the rest
    exact ih.imp_left fun h => ⟨h.1, h.2.1, (compressBlock_ok_noFail hcb rfl).trans h.2.2⟩
  case case5 => exact .inr ⟨rfl, rfl⟩  -- the destination refused
  case case6 ih => exact ih            -- the buffer is not full: go on
  -- out of fuel (case1), or nothing left to write (case2)
  all_goals exact .inl ⟨rfl, rfl, .refl _⟩

theorem write_open (L : DynLeaves MF Tok) (c : Cfg) (w : WState MF Tok) (data : List UInt8) (h : w.err = none) :
    Ran none w.dst (write L c w data) := by
  have := writeLoop_ran L c (data.length + 1) w data 0
  unfold write; rw [h] at this ⊢; exact this

theorem flush_open (L : DynLeaves MF Tok) (c : Cfg) (w : WState MF Tok) (h : w.err = none) :
    Ran none w.dst (flush L c w) := by
  unfold flush; rw [h]; dsimp only
  split
  · rename_i s1 d1 hcb
    split
    · rename_i d2 hw
      exact .inl ⟨rfl, rfl, (compressBlock_ok_noFail hcb rfl).trans (write_true_noFail hw)⟩
    · exact .inr ⟨rfl, rfl⟩
  · exact .inr ⟨rfl, rfl⟩

theorem close_open (L : DynLeaves MF Tok) (c : Cfg) (w : WState MF Tok) (h : w.err = none) :
    Ran (some .closed) w.dst (close L c w) := by
  unfold close; rw [h]; dsimp only
  split
  · rename_i s1 d1 hcb
    exact .inl ⟨rfl, rfl, compressBlock_ok_noFail hcb rfl⟩
  · exact .inr ⟨rfl, rfl⟩

def Op.isReset : Op → Bool
  | .reset _ => true
  | _ => false

theorem step_open (L : DynLeaves MF Tok) (c : Cfg) (w : WState MF Tok) (h : w.err = none) (op : Op)
    (hop : op.isReset = false) : ∃ e, Ran e w.dst (step L c w op) := by
  cases op with
  | write data => exact ⟨_, write_open L c w data h⟩
  | flush => exact ⟨_, flush_open L c w h⟩
  | close => exact ⟨_, close_open L c w h⟩
  | reset d => cases hop

theorem step_failed (L : DynLeaves MF Tok) (c : Cfg) (w : WState MF Tok) (h : w.err = some .injected)
    (op : Op) (hop : op.isReset = false) : step L c w op = (w, { n := 0, err := some .injected }) := by
  cases op with
  | write data => exact write_of_err L c w h data
  | flush => exact flush_of_err L c w h
  | close => exact close_of_injected L c w h
  | reset d => cases hop

/-- what the protocol says a closed Writer answers -/
def closedAnswer : Op → OpRes
  | .close => {}
  | _ => { n := 0, err := some .closed }

theorem step_closed (L : DynLeaves MF Tok) (c : Cfg) (w : WState MF Tok) (h : w.err = some .closed)
    (op : Op) (hop : op.isReset = false) : step L c w op = (w, closedAnswer op) := by
  cases op with
  | write data => exact write_of_err L c w h data
  | flush => exact flush_of_err L c w h
  | close => exact close_of_closed L c w h
  | reset d => cases hop

theorem run_fixed (L : DynLeaves MF Tok) (c : Cfg) (w : WState MF Tok) (f : Op → OpRes) (ops : List Op)
    (h : ∀ op ∈ ops, step L c w op = (w, f op)) : run L c w ops = (w, ops.map f) := by
  induction ops with
  | nil => rfl
  | cons op ops ih =>
    simp only [run, h op List.mem_cons_self, ih fun o ho => h o (List.mem_cons_of_mem _ ho), List.map_cons]

theorem run_failed (L : DynLeaves MF Tok) (c : Cfg) (w : WState MF Tok) (h : w.err = some .injected)
    (ops : List Op) (hnr : ∀ op ∈ ops, op.isReset = false) :
    run L c w ops = (w, ops.map fun _ => { n := 0, err := some .injected }) :=
  run_fixed L c w _ ops fun op ho => step_failed L c w h op (hnr op ho)

theorem run_closed (L : DynLeaves MF Tok) (c : Cfg) (w : WState MF Tok) (h : w.err = some .closed)
    (ops : List Op) (hnr : ∀ op ∈ ops, op.isReset = false) :
    run L c w ops = (w, ops.map closedAnswer) :=
  run_fixed L c w _ ops fun op ho => step_closed L c w h op (hnr op ho)

end Fastgo.Writer
