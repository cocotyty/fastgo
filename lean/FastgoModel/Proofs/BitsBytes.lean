import FastgoModel.Proofs.StreamCompose
import FastgoModel.Writer.Control
/-
  Bits <-> bytes (LSB first), padding to a byte boundary, and the empty stored block that Flush / an empty Close
  emit (BitBuf.writeEmptyBlock / writeFinalEmptyBlock).
-/
namespace Fastgo.Spec
open Fastgo.Writer

theorem bytesToBits_packBytes (m : Nat) (p : Bits) (h : p.length = 8 * m) : bytesToBits (packBytes m p) = p := by
  induction m generalizing p with
  | zero =>
    have : p = [] := List.length_eq_zero_iff.mp (by omega)
    subst this; rfl
  | succ m ih =>
    have h8 : (p.take 8).length = 8 := by rw [List.length_take]; omega
    have hr : (p.drop 8).length = 8 * m := by rw [List.length_drop]; omega
    simp only [packBytes, bytesToBits, List.flatMap_cons]
    rw [byteBits_ofBits _ h8]
    have := ih (p.drop 8) hr
    simp only [bytesToBits] at this
    rw [this, List.take_append_drop]

theorem bytesToBits_padToBytes (bs : Bits) :
    bytesToBits (padToBytes bs) = bs ++ List.replicate (padLen bs.length) false := by
  unfold padToBytes
  apply bytesToBits_packBytes
  simp only [List.length_append, List.length_replicate, padLen]
  omega

/-- the bits of an empty stored block placed at bit position `pos`: header, padding to the byte boundary, LEN=0, NLEN=0xFFFF -/
def storedEmptyBits (pos : Nat) (final : Bool) : Bits :=
  [final, false, false] ++ (List.replicate (padLen (pos + 3)) false ++ (natToBits 0 16 ++ natToBits 65535 16))

theorem storedEmpty_isBlock (mode : Mode) (pos : Nat) (final : Bool) (h : Array UInt8) :
    IsBlock mode pos (storedEmptyBits pos final) final h [] := by
  intro t st
  refine ⟨{ st with blocks := st.blocks + 1, stored := st.stored + 1 }, ?_⟩
  have hd : (8 - (pos + 3) % 8) % 8 = (List.replicate (padLen (pos + 3)) false).length := by simp [padLen]
  have e : storedEmptyBits pos final ++ t = [final] ++ ([false, false] ++ (List.replicate (padLen (pos + 3)) false ++
      (natToBits 0 16 ++ (natToBits 65535 16 ++ t)))) := by simp [storedEmptyBits]
  simp only [inflateBlock, e, takeField_append 1 [final] _ rfl, takeField_append 2 [false, false] _ rfl, hd, List.drop_left,
    takeField_natToBits 0 16 (by decide), takeField_natToBits 65535 16 (by decide)]
  cases final <;> simp [bitsToNat, bytesOfBits]

theorem emptyStored_bits (carry : Bits) (final : Bool) (pos : Nat) (hpos : pos % 8 = carry.length % 8) :
    bytesToBits (emptyStored carry final) = carry ++ storedEmptyBits pos final := by
  unfold emptyStored storedEmptyBits
  rw [bytesToBits_append, bytesToBits_padToBytes]
  have h4 : bytesToBits [0, 0, 0xff, 0xff] = natToBits 0 16 ++ natToBits 65535 16 := by decide
  have hp : padLen (carry ++ [final, false, false]).length = padLen (pos + 3) := by
    simp only [padLen, List.length_append, List.length_cons, List.length_nil]
    omega
  rw [h4, hp]
  simp [List.append_assoc]

theorem emptyStored_length_mod (carry : Bits) (final : Bool) :
    (bytesToBits (emptyStored carry final)).length % 8 = 0 := by
  rw [bytesToBits_length]; omega

end Fastgo.Spec
