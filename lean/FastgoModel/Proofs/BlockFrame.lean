import FastgoModel.Proofs.BitsBytes
import FastgoModel.Proofs.FixedCode
import FastgoModel.Writer.BlockCheck
/-
  One block is decoded locally: a block that the specification inflater decodes completely is decoded identically
  whatever bits follow it, whatever output precedes the history it refers back into, and whatever the statistics so far
  (`inflateBlock_local`). Every function of the specification gets one such lemma, proved by its functional case
  principle: for each way it can succeed, the call on the extended input is evaluated from the equations of that case and
  the frame facts of what it reads; every other case is vacuous. The Huffman codes involved are prefix-free because the
  lengths they were built from passed `lensOK` (`canonical_prefixFree_of_lensOK`). This turns the *executable* check `checkBlock`
  — run the specification inflater on the bits one real block-encoder call produced — into the universally quantified
  `IsBlock` that the stream-composition proofs need (`checkBlock_sound`), and `checkEnc` into the `enc` clause of the leaf
  contract `Writer.Sound` for that call (`checkEnc_gives_enc`), for any history in front (`checkEnc_gives_enc_suffix`).
-/
namespace Fastgo.Spec
open Fastgo.Writer

theorem pfB_iff (code : List (Nat × Bits)) : pfB code = true ↔ PrefixFree code := by
  simp only [pfB, PrefixFree, List.all_eq_true, Bool.or_eq_true, List.isEmpty_iff, Bool.not_eq_true',
    decide_eq_true_eq, ← Bool.not_eq_true, List.isPrefixOf_iff_prefix]
  refine forall_congr' fun a => forall_congr' fun _ => forall_congr' fun b => forall_congr' fun _ => ?_
  by_cases h1 : a.2 = [] <;> by_cases h2 : b.2 = [] <;> by_cases h3 : a.2 <+: b.2 <;> simp [h1, h2, h3]

theorem pfB_complete (code : List (Nat × Bits)) (h : PrefixFree code) : pfB code = true := (pfB_iff code).2 h

theorem decodeSym_frame {code : List (Nat × Bits)} (hpf : PrefixFree code) {bs : Bits} {s : Nat} {r : Bits} (t : Bits)
    (h : decodeSym code bs = .sym s r) : decodeSym code (bs ++ t) = .sym s (r ++ t) := by
  unfold decodeSym at h ⊢
  split at h
  · cases h
    rename_i hd
    obtain ⟨cw, hm, hne, rfl⟩ := decodeWith_some hd
    rw [List.append_assoc, decodeWith_encode code hpf s cw hm hne]
  · split at h <;> cases h

theorem copyBack_prefix (p : Array UInt8) (d : Nat) : ∀ (n : Nat) (out : Array UInt8), d ≤ out.size →
    copyBack (p ++ out) d n = p ++ copyBack out d n := by
  intro n
  induction n with
  | zero => intro out _; rfl
  | succ n ih =>
    intro out hd
    rw [copyBack, copyBack]
    have hsz : (p ++ out).size - d = p.size + (out.size - d) := by rw [Array.size_append]; omega
    have hget : (p ++ out).getD ((p ++ out).size - d) 0 = out.getD (out.size - d) 0 := by
      rw [hsz]
      simp only [Array.getD_eq_getD_getElem?]
      rw [Array.getElem?_append_right (by omega)]
      congr 2
      omega
    rw [hget, Array.push_append]
    exact ih (out.push _) (by rw [Array.size_push]; omega)

theorem bodyStep_local {lit dist : List (Nat × Bits)} (hl : PrefixFree lit) (hd : PrefixFree dist)
    (bs : Bits) (out : Array UInt8) (st : Stats) (p : Array UInt8) (t : Bits) (st' : Stats) :
    (∀ o r s, bodyStep lit dist bs out st = .cont o r s →
      ∃ s', bodyStep lit dist (bs ++ t) (p ++ out) st' = .cont (p ++ o) (r ++ t) s') ∧
    (∀ o r s, bodyStep lit dist bs out st = .eob o r s →
      bodyStep lit dist (bs ++ t) (p ++ out) st' = .eob (p ++ o) (r ++ t) st') := by
  -- the three ways to succeed (cases 3, 4 and 12 of the twelve leaves, in the order of the definition): a literal, end
  -- of block, a length/distance pair
  fun_cases bodyStep lit dist bs out st with
  | case3 s r0 hs c1 =>
    refine ⟨fun o r s h => ?_, nofun⟩
    cases h
    rw [bodyStep, decodeSym_frame hl t hs]
    simp only [c1, if_true, Array.push_append]
    exact ⟨_, rfl⟩
  | case4 r0 hs =>
    refine ⟨nofun, fun o r s h => ?_⟩
    cases h
    rw [bodyStep, decodeSym_frame hl t hs]
    rfl
  | case12 s r0 hs c1 c2 c3 e r1 hf len ds r2 hds c4 de r3 hf2 d c5 =>
    refine ⟨fun o r s h => ?_, nofun⟩
    cases h
    have c5' : ¬ d > (p ++ out).size := by rw [Array.size_append]; omega
    rw [bodyStep, decodeSym_frame hl t hs]
    simp only [c1, c2, c3, if_false, takeField_frame t hf, decodeSym_frame hd t hds, c4, takeField_frame t hf2]
    rw [if_neg c5', copyBack_prefix p d len out (Nat.le_of_not_gt c5)]
    exact ⟨_, rfl⟩
  | _ => exact ⟨nofun, nofun⟩

theorem decodeBody_local {lit dist : List (Nat × Bits)} (hl : PrefixFree lit) (hd : PrefixFree dist)
    (p : Array UInt8) (t : Bits) {fuel : Nat} {bs : Bits} {out : Array UInt8} {st : Stats} {o : Array UInt8} {r : Bits}
    {s : Stats} : decodeBody lit dist fuel bs out st = .eob o r s → ∀ (st' : Stats) {fuel' : Nat}, fuel ≤ fuel' →
      ∃ s', decodeBody lit dist fuel' (bs ++ t) (p ++ out) st' = .eob (p ++ o) (r ++ t) s' := by
  -- cases 2 and 3: one more symbol; end of block
  fun_induction decodeBody lit dist fuel bs out st with
  | case2 f bs out st o1 r1 s1 hb ih =>
    intro h st' fuel' hf
    obtain ⟨f', rfl⟩ : ∃ f', fuel' = f' + 1 := ⟨fuel' - 1, by omega⟩
    obtain ⟨s1', hb'⟩ := (bodyStep_local hl hd bs out st p t st').1 _ _ _ hb
    rw [decodeBody, hb']
    exact ih h s1' (by omega)
  | case3 f bs out st o1 r1 s1 hb =>
    intro h st' fuel' hf
    cases h
    obtain ⟨f', rfl⟩ : ∃ f', fuel' = f' + 1 := ⟨fuel' - 1, by omega⟩
    rw [decodeBody, (bodyStep_local hl hd bs out st p t st').2 _ _ _ hb]
    exact ⟨_, rfl⟩
  | _ => exact nofun

theorem readClLens_frame (t : Bits) {n : Nat} {os : List Nat} {bs : Bits} {acc cl : List Nat} {r : Bits} :
    readClLens n os bs acc = some (cl, r) → readClLens n os (bs ++ t) acc = some (cl, r ++ t) := by
  -- fuel or order list used up (1, 2); too few bits (3); one more length (4)
  fun_induction readClLens n os bs acc with
  | case1 | case2 => intro h; cases h; rfl
  | case3 => nofun
  | case4 _ _ _ _ _ _ _ hf ih => rw [readClLens, takeField_frame t hf]; exact ih

theorem readLens_frame {cl : List (Nat × Bits)} (hpf : PrefixFree cl) (t : Bits) {total fuel : Nat} {bs : Bits}
    {acc lens : List Nat} {r : Bits} :
    readLens cl total fuel bs acc = .ok lens r → readLens cl total fuel (bs ++ t) acc = .ok lens (r ++ t) := by
  -- the five ways to succeed (cases 2, 5, 9, 12, 15): all lengths read; one more length; a repeat code 16, 17, 18
  fun_induction readLens cl total fuel bs acc with
  | case2 _ _ _ hn => intro h; cases h; rw [readLens, if_pos hn]
  | case5 _ _ _ hn _ _ hs h16 ih =>
    rw [readLens, if_neg hn, decodeSym_frame hpf t hs]
    simpa only [h16, if_true] using ih
  | case9 _ _ _ hn _ _ hp _ _ hf hle hs h16 ih =>
    rw [readLens, if_neg hn, decodeSym_frame hpf t hs]
    simpa only [hp, takeField_frame t hf, hle, if_false, h16, if_true] using ih
  | case12 _ _ _ hn _ _ _ hf hle hs h16 h17 ih =>
    rw [readLens, if_neg hn, decodeSym_frame hpf t hs]
    simpa only [takeField_frame t hf, hle, if_false, h16, h17, if_true] using ih
  | case15 _ _ _ hn _ _ hs h16 h17 h18 _ _ hf hle ih =>
    rw [readLens, if_neg hn, decodeSym_frame hpf t hs]
    simpa only [takeField_frame t hf, hle, if_false, h16, h17, h18, if_true] using ih
  | _ => nofun

/-- a dynamic header the specification accepts declared three sets of lengths that passed `lensOK`, and reads the
    same whatever follows it (its code-length code is prefix-free because those lengths passed the test) -/
theorem readDynHeader_ok (mode : Mode) {bs : Bits} {ll dl : List Nat} {r : Bits} (t : Bits) :
    readDynHeader mode bs = .ok ll dl r →
    lensOK mode (headerCl bs) = true ∧ lensOK mode ll = true ∧ lensOK mode dl = true ∧
    readDynHeader mode (bs ++ t) = .ok ll dl (r ++ t) := by
  -- case 10 is the only success: the three counts, the code-length code and all lengths were read, and all pass `lensOK`
  fun_cases readDynHeader mode bs with
  | case10 hlit r1 h1 hdist r2 h2 hclen r3 h3 hb cl r4 h4 hk lens r5 h5 ll' dl' hk2 =>
    intro h
    obtain ⟨rfl, rfl, rfl⟩ := HdrRes.ok.inj h
    simp only [Bool.not_eq_true', Bool.or_eq_true, not_or, Bool.not_eq_false] at hk hk2
    refine ⟨?_, hk2.1, hk2.2, ?_⟩
    · simp only [headerCl, h1, h2, h3, h4, hk]
    · simp only [readDynHeader, takeField_frame t h1, takeField_frame t h2, takeField_frame t h3, hb,
        readClLens_frame t h4, hk, readLens_frame (canonical_prefixFree_of_lensOK mode cl hk) t h5, hk2, ll', dl']
      rfl
  | _ => exact nofun

theorem readDynHeader_ok_lens (mode : Mode) (bs : Bits) (ll dl : List Nat) (r : Bits)
    (h : readDynHeader mode bs = .ok ll dl r) :
    lensOK mode (headerCl bs) = true ∧ lensOK mode ll = true ∧ lensOK mode dl = true :=
  have ⟨h1, h2, h3, _⟩ := readDynHeader_ok mode [] h
  ⟨h1, h2, h3⟩

theorem bytesOfBits_frame (bs t : Bits) (n : Nat) (h : 8 * n ≤ bs.length) : bytesOfBits (bs ++ t) n = bytesOfBits bs n := by
  unfold bytesOfBits
  apply List.map_congr_left
  intro i hi
  rw [List.mem_range] at hi
  rw [List.drop_append_of_le_length (by omega), List.take_append_of_le_length (by rw [List.length_drop]; omega)]

/-- **one block is decoded locally**: a block that decodes completely, leaving `r`, decodes to the same output leaving
    `r ++ t` whatever bits `t` follow, whatever output `p` precedes the history it was decoded against, and whatever the
    statistics so far. No condition on its codes: those it declares passed `lensOK`, so they are prefix-free. -/
theorem inflateBlock_local (mode : Mode) (pos : Nat) (B : Bits) (h : Array UInt8) (st : Stats)
    (final : Bool) (o : Array UInt8) (r : Bits) (s : Stats) (p : Array UInt8) (t : Bits) (st' : Stats) :
    inflateBlock mode pos B h st = .next final o r s →
    ∃ s', inflateBlock mode pos (B ++ t) (p ++ h) st' = .next final (p ++ o) (r ++ t) s' := by
  -- the three ways to succeed (cases 7, 10, 15): a stored block, the fixed codes, dynamic codes
  fun_cases inflateBlock mode pos B h st with
  | case7 bf r0 h1 r1 st1 r2 len r3 h3 nlen r4 h4 hn hl h2 =>
    intro hb
    obtain ⟨rfl, rfl, rfl, _⟩ := BlockRes.next.inj hb
    -- the padding up to the byte boundary is there: otherwise LEN could not have been read
    have hk : (8 - (pos + 3) % 8) % 8 ≤ r1.length := by
      refine Nat.le_of_not_gt fun hgt => ?_
      rw [show r2 = [] from List.drop_eq_nil_of_le (Nat.le_of_lt hgt)] at h3
      cases h3
    dsimp only [r2] at h3
    have hl' : ¬ (r4 ++ t).length < 8 * len := by rw [List.length_append]; omega
    simp only [inflateBlock, takeField_frame t h1, takeField_frame t h2, if_true, List.drop_append_of_le_length hk,
      takeField_frame t h3, takeField_frame t h4, hn, hl', if_false, bytesOfBits_frame _ t _ (Nat.le_of_not_gt hl),
      List.drop_append_of_le_length (Nat.le_of_not_gt hl), Array.append_assoc]
    exact ⟨_, rfl⟩
  | case10 bf r0 h1 r1 st1 o1 r2 s1 hd h2 =>
    intro hb
    obtain ⟨rfl, rfl, rfl, _⟩ := BlockRes.next.inj hb
    obtain ⟨s', hd'⟩ := decodeBody_local (fixLit_eq ▸ fixLit_prefixFree) (fixDist_eq ▸ fixDist_prefixFree) p t hd
      { st' with blocks := st'.blocks + 1 } (fuel' := (r1 ++ t).length + 1) (by simp)
    simp only [inflateBlock, takeField_frame t h1, takeField_frame t h2, hd']
    exact ⟨_, rfl⟩
  | case15 bf r0 h1 r1 st1 ll dl r2 hh o1 r3 s1 hd h2 =>
    intro hb
    obtain ⟨rfl, rfl, rfl, _⟩ := BlockRes.next.inj hb
    obtain ⟨_, k2, k3, hf⟩ := readDynHeader_ok mode t hh
    obtain ⟨s', hd'⟩ := decodeBody_local (canonical_prefixFree_of_lensOK mode _ k2)
      (canonical_prefixFree_of_lensOK mode _ k3) p t hd
      { st' with blocks := st'.blocks + 1 } (fuel' := (r2 ++ t).length + 1) (by simp)
    simp only [inflateBlock, takeField_frame t h1, takeField_frame t h2, hf, hd']
    exact ⟨_, rfl⟩
  | _ => exact nofun

/-- **the specification's block decoder is prefix-stable** (no side condition) -/
theorem inflateBlock_prefix_stable (mode : Mode) (pos : Nat) (B : Bits) (h : Array UInt8) (st : Stats)
    (final : Bool) (o : Array UInt8) (r : Bits) (s : Stats)
    (hb : inflateBlock mode pos B h st = .next final o r s) (t : Bits) (st' : Stats) :
    ∃ s', inflateBlock mode pos (B ++ t) h st' = .next final o (r ++ t) s' := by
  simpa using inflateBlock_local mode pos B h st final o r s #[] t st' hb

/-- `inflateBlock_prefix_stable` under the decidable check `blockCodesPF`, which it does not need (`blockCodesPF_of_next`) -/
theorem inflateBlock_frame (mode : Mode) (pos : Nat) (B : Bits) (h : Array UInt8) (st : Stats)
    (final : Bool) (o : Array UInt8) (r : Bits) (s : Stats)
    (hpf : blockCodesPF mode B = true)
    (hb : inflateBlock mode pos B h st = .next final o r s) (t : Bits) (st' : Stats) :
    ∃ s', inflateBlock mode pos (B ++ t) h st' = .next final o (r ++ t) s' :=
  inflateBlock_prefix_stable mode pos B h st final o r s hb t st'

theorem inflateBlock_stats (mode : Mode) (pos : Nat) (B : Bits) (h : Array UInt8) (st st' : Stats)
    (final : Bool) (o : Array UInt8) (r : Bits) (s : Stats) (hpf : blockCodesPF mode B = true)
    (hb : inflateBlock mode pos B h st = .next final o r s) :
    ∃ s', inflateBlock mode pos B h st' = .next final o r s' := by
  simpa using inflateBlock_prefix_stable mode pos B h st final o r s hb [] st'

/-- **a block stays a block when the history is extended to the left** -/
theorem IsBlock.extend_history {mode : Mode} {pos : Nat} {B : Bits} {final : Bool} {h : Array UInt8} {x : List UInt8}
    (hb : IsBlock mode pos B final h x) (p : Array UInt8) : IsBlock mode pos B final (p ++ h) x := by
  intro t st
  obtain ⟨st0, h0⟩ := hb t st
  obtain ⟨st', h1⟩ := inflateBlock_local mode pos (B ++ t) h st final _ t st0 p [] st h0
  exact ⟨st', by simpa [Array.append_assoc] using h1⟩

/-- the check `blockCodesPF` holds for every block the specification decodes -/
theorem blockCodesPF_of_next (mode : Mode) (pos : Nat) (B : Bits) (h : Array UInt8) (st : Stats)
    (final : Bool) (o : Array UInt8) (r : Bits) (s : Stats)
    (hb : inflateBlock mode pos B h st = .next final o r s) : blockCodesPF mode B = true := by
  revert hb
  -- a stored block and the fixed codes declare nothing; dynamic codes passed `lensOK`
  fun_cases inflateBlock mode pos B h st with
  | case7 _ _ h1 _ _ _ _ _ _ _ _ _ _ _ h2 => intro _; simp [blockCodesPF, h1, h2]
  | case10 _ _ h1 _ _ _ _ _ _ h2 => intro _; simp [blockCodesPF, h1, h2]
  | case15 _ _ h1 _ _ ll dl r2 hh _ _ _ _ h2 =>
    obtain ⟨k1, k2, k3⟩ := readDynHeader_ok_lens mode _ ll dl r2 hh
    intro _
    simp only [blockCodesPF, h1, h2, hh, if_true, Bool.and_eq_true]
    exact ⟨pfB_complete _ (canonical_prefixFree_of_lensOK mode _ k1),
      pfB_complete _ (canonical_prefixFree_of_lensOK mode _ k2),
      pfB_complete _ (canonical_prefixFree_of_lensOK mode _ k3)⟩
  | _ => exact nofun

theorem checkBlock_sound {mode : Mode} {pos : Nat} {B : Bits} {final : Bool} {h : Array UInt8} {x : List UInt8}
    (hc : checkBlock mode pos B final h x = true) : IsBlock mode pos B final h x := by
  unfold checkBlock at hc
  rw [Bool.and_eq_true] at hc
  split at hc
  · rename_i f o r s hb
    simp only [Bool.and_eq_true, beq_iff_eq, List.isEmpty_iff, decide_eq_true_eq] at hc
    obtain ⟨_, ⟨rfl, rfl⟩, rfl⟩ := hc
    intro t st
    simpa using inflateBlock_prefix_stable mode pos B h {} f _ [] s hb t st
  · cases hc.2

/-- **a passed check gives the `enc` clause of `Writer.Sound` for that call** -/
theorem checkEnc_gives_enc (mode : Mode) (pos : Nat) (carry : Bits) (out : List UInt8) (carry' : Bits) (final : Bool)
    (h : Array UInt8) (x : List UInt8) (hc : checkEnc mode pos carry out carry' final h x = true) :
    ∃ B, IsBlock mode pos B final h x ∧
      (final = false → bytesToBits out ++ carry' = carry ++ B) ∧
      (final = true → carry' = [] ∧
        bytesToBits out = carry ++ B ++ List.replicate (padLen (carry ++ B).length) false) := by
  unfold checkEnc at hc
  simp only [Bool.and_eq_true, decide_eq_true_eq] at hc
  obtain ⟨⟨hpre, _⟩, hc⟩ := hc
  have hsplit : bytesToBits out ++ carry' = carry ++ (bytesToBits out ++ carry').drop carry.length := by
    conv => lhs; rw [← List.take_append_drop carry.length (bytesToBits out ++ carry'), hpre]
  cases final with
  | false => exact ⟨_, checkBlock_sound hc, fun _ => hsplit, fun hf => by cases hf⟩
  | true =>
    simp only [if_true, Bool.and_eq_true, List.isEmpty_iff] at hc
    obtain ⟨rfl, hc⟩ := hc
    split at hc
    · simp only [Bool.and_eq_true, decide_eq_true_eq] at hc
      obtain ⟨⟨_, heq⟩, hck⟩ := hc
      refine ⟨_, checkBlock_sound hck, fun hf => (by cases hf), fun _ => ⟨rfl, ?_⟩⟩
      simp only [List.append_nil] at heq hsplit ⊢
      rw [List.append_assoc, ← heq]
      exact hsplit
    · cases hc

/-- the check may be run on a suffix `h` of the data encoded so far: the `enc` clause holds for the whole history -/
theorem checkEnc_gives_enc_suffix (mode : Mode) (pos : Nat) (carry : Bits) (out : List UInt8) (carry' : Bits) (final : Bool)
    (p h : Array UInt8) (x : List UInt8) (hc : checkEnc mode pos carry out carry' final h x = true) :
    ∃ B, IsBlock mode pos B final (p ++ h) x ∧
      (final = false → bytesToBits out ++ carry' = carry ++ B) ∧
      (final = true → carry' = [] ∧
        bytesToBits out = carry ++ B ++ List.replicate (Fastgo.Writer.padLen (carry ++ B).length) false) := by
  obtain ⟨B, h1, h2, h3⟩ := checkEnc_gives_enc mode pos carry out carry' final h x hc
  exact ⟨B, h1.extend_history p, h2, h3⟩

end Fastgo.Spec
