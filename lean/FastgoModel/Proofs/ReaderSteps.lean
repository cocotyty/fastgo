import FastgoModel.Proofs.Bufio
/-
  The Reader control model by outcome: what input acquisition, the bookkeeping after a decoder run, and Read
  as a loop of step() do to the state, before any invariant is stated. The invariants of the Reader
  (`Inv`, `Deliv`) are proved from these facts and never walk through acquire, afterDecode, step or read themselves.
-/
namespace Fastgo.Reader
variable {δ : Type}

theorem acquire_spec (r : RState δ) :
    match acquire r with
    | .blocked => r.input = none ∧ r.ended = false ∧ ∃ b, r.bio.Grew b ∧ b.src = [] ∧ b.buf.length ≤ r.bitsLen / 8
    | .failed r0 e => r.input = none ∧ ∃ b id, r.bio.Grew b ∧ b.buf.length ≤ r.bitsLen / 8 ∧
        r0 = { r with bio := b } ∧ e = .src (.fail id)
    | .ready r1 => (r1 = r ∧ (r.input = none → r.ended = true)) ∨ (r.input = none ∧ ∃ b eof, r.bio.Grew b ∧
        r1 = { r with bio := b, eof := eof, peekSize := b.buf.length, input := some (b.buf.length - r.bitsLen / 8) }) := by
  have hp := peek_spec (r.bitsLen / 8 + 1) r.bio.fuel r.bio
  -- Peek blocked; Peek reported a failure; Peek returned (with io.EOF or without); no Peek was needed
  fun_cases acquire r with
  | case1 hc hpeek =>
    rw [hpeek] at hp
    obtain ⟨b, hg, hs, hl⟩ := hp
    exact ⟨hc.1, by simpa using hc.2, b, hg, hs, Nat.le_of_lt_succ hl⟩
  | case2 hc b _ id hpeek =>
    rw [hpeek] at hp
    exact ⟨hc.1, b, id, hp.1, Nat.le_of_lt_succ (hp.2 _ rfl).1, rfl, rfl⟩
  | case3 hc b e _ hpeek =>
    rw [hpeek] at hp
    exact .inr ⟨hc.1, b, _, hp.1, rfl⟩
  | case4 hc => exact .inl ⟨rfl, fun hn => Decidable.byContradiction fun he => hc ⟨hn, he⟩⟩

/-- the error step() returns after a decoder run -/
def stepErr (o : DecOut δ) (eof : Bool) : Option RE :=
  if o.status = .invalid ∨ (o.status = .needInput ∧ eof = true) then
    some (if o.status = .needInput then .unexpectedEOF else .corrupt)
  else if o.ended = true ∧ o.out = [] then some .eof else none

theorem stepErr_spec (o : DecOut δ) (eof : Bool) :
    (stepErr o eof = some .eof → o.ended = true ∧ o.out = []) ∧
    (stepErr o eof = some .corrupt → o.status = .invalid) ∧
    (stepErr o eof = some .unexpectedEOF → o.status = .needInput ∧ eof = true) ∧
    (∀ e, stepErr o eof ≠ some (.src e)) := by
  unfold stepErr
  split
  · split <;> simp_all
  · split <;> simp_all

/-- the state right after the decoder has run, before any discarding; the Reader has finished once a run reports
    io.EOF -/
def decoded (D : Decoder δ) (r1 : RState δ) : RState δ :=
  let o := D.run r1.dec r1.inBytes r1.bitsLen r1.ended
  { r1 with dec := o.st, pending := o.out, bitsLen := o.bitsLen, ended := o.ended,
            input := r1.input.map (· - o.k), fed := r1.fed ++ r1.inBytes.take o.k,
            finished := decide (stepErr o r1.eof = some .eof) || r1.finished }

/-- when the decoder did not fail, `decoded` and `stepErr` are the state `r3` and the error `e` that afterDecode goes on with -/
theorem decoded_ok (D : Decoder δ) (r1 : RState δ)
    (herr : ¬((D.run r1.dec r1.inBytes r1.bitsLen r1.ended).status = .invalid ∨
      ((D.run r1.dec r1.inBytes r1.bitsLen r1.ended).status = .needInput ∧ r1.eof = true))) :
    let o := D.run r1.dec r1.inBytes r1.bitsLen r1.ended
    let r2 : RState δ := { r1 with
      dec := o.st, pending := o.out, bitsLen := o.bitsLen, ended := o.ended,
      input := r1.input.map (· - o.k), fed := r1.fed ++ r1.inBytes.take o.k }
    decoded D r1 = (if r2.ended ∧ r2.pending = [] then { r2 with finished := true } else r2) ∧
    stepErr o r1.eof = if r2.ended ∧ r2.pending = [] then some .eof else none := by
  intro o r2
  rw [decoded, stepErr, if_neg herr]
  split <;> exact ⟨rfl, rfl⟩

/-- the bookkeeping after a decoder run: the error is `stepErr`; the state is `decoded`, left alone while input
    remains, and otherwise with the consumed bytes discarded and the window dropped, or (output space ran out) kept
    empty at the bytes still held in the bit buffer -/
theorem afterDecode_spec (D : Decoder δ) (r1 : RState δ) :
    (afterDecode D r1).2 = stepErr (D.run r1.dec r1.inBytes r1.bitsLen r1.ended) r1.eof ∧
    ((afterDecode D r1).1 = { (decoded D r1).discardConsumed with input := none, peekSize := 0 } ∨
     (decoded D r1).finished = false ∧
      ((afterDecode D r1).1 = decoded D r1 ∨
       (afterDecode D r1).1 =
         { (decoded D r1).discardConsumed with input := some 0, peekSize := (decoded D r1).bitsLen / 8 })) := by
  -- the decoder failed; the window is used up and output space ran out; the window is used up otherwise; input is left
  fun_cases afterDecode D r1 with
  | case1 o r2 herr =>
    rw [decoded, show stepErr o r1.eof = _ from if_pos herr]
    split <;> exact ⟨rfl, .inl rfl⟩
  | case2 o r2 herr fin r3 e h3 r4 h4 =>
    obtain ⟨hd, he⟩ := decoded_ok D r1 herr
    rw [hd, he]
    exact ⟨rfl, .inr ⟨Bool.eq_false_iff.mpr h4.2, .inr rfl⟩⟩
  | case3 o r2 herr fin r3 e h3 r4 h4 =>
    obtain ⟨hd, he⟩ := decoded_ok D r1 herr
    rw [hd, he]
    exact ⟨rfl, .inl rfl⟩
  | case4 o r2 herr fin r3 e h3 =>
    obtain ⟨hd, he⟩ := decoded_ok D r1 herr
    rw [hd, he]
    exact ⟨rfl, .inr ⟨Bool.eq_false_iff.mpr fun hf => h3 (.inr hf), .inl rfl⟩⟩

theorem step_cases (D : Decoder δ) (r r' : RState δ) (res : StepRes) (h : step D r = (r', res)) :
    (r.finished = true ∧ r' = r ∧ res = .err (some .eof)) ∨
    (r.finished = false ∧
      ((acquire r = .blocked ∧ r' = r ∧ res = .blocked) ∨
       (∃ e, acquire r = .failed r' e ∧ res = .err (some e)) ∨
       (∃ r1, acquire r = .ready r1 ∧ r' = (afterDecode D r1).1 ∧ res = .err (afterDecode D r1).2))) := by
  revert h
  -- finished; acquisition blocked; acquisition failed; the decoder ran
  fun_cases step D r with
  | case1 hf => intro h; cases h; exact .inl ⟨hf, rfl, rfl⟩
  | case2 hf ha => intro h; cases h; exact .inr ⟨Bool.eq_false_iff.mpr hf, .inl ⟨ha, rfl, rfl⟩⟩
  | case3 hf r0 e ha => intro h; cases h; exact .inr ⟨Bool.eq_false_iff.mpr hf, .inr (.inl ⟨e, ha, rfl⟩)⟩
  | case4 hf r1 ha r2 e had =>
    intro h; cases h
    exact .inr ⟨Bool.eq_false_iff.mpr hf, .inr (.inr ⟨r1, ha, by rw [had], by rw [had]⟩)⟩

def ReadRes.bytes : ReadRes → List UInt8
  | .data bs _ => bs
  | _ => []

def ReadRes.err : ReadRes → Option RE
  | .data _ e => e
  | _ => none

theorem read_sticky (D : Decoder δ) (fuel : Nat) (r : RState δ) (want : Nat) (e : RE)
    (he : r.err = some e) (hp : r.pending = []) :
    read D (fuel + 1) r want = (r, .data [] (some e)) := by
  unfold read
  simp [hp, he]

/-- Read as a loop of step(): a property of (what has been delivered, the state) that survives handing out pending
    output, and survives a step() taken with nothing pending and no stored error, survives Read -/
theorem read_rule (D : Decoder δ) (P : List UInt8 → RState δ → Prop)
    (drain : ∀ g r n, P g r → P (g ++ r.pending.take n) { r with pending := r.pending.drop n })
    (hstep : ∀ g r r1 e, P g r → r.pending = [] → r.err = none → step D r = (r1, .err e) → P g { r1 with err := e })
    (fuel : Nat) (r : RState δ) (want : Nat) (g : List UInt8) (h : P g r) :
    P (g ++ (read D fuel r want).2.bytes) (read D fuel r want).1 := by
  -- out of fuel; pending output handed out completely (2) or in part (3); a stored error; step() blocked (5),
  -- returned an error with nothing to deliver (6), or Read goes round again (7)
  fun_induction read D fuel r want with
  | case1 => simpa [ReadRes.bytes] using h
  | case2 _ r => exact drain g r _ h
  | case3 _ r => exact drain g r _ h
  | case4 => simpa [ReadRes.bytes] using h
  | case5 _ r _ _ _ r1 hs =>
    obtain ⟨_, _, ⟨⟩⟩ | ⟨_, ⟨_, rfl, _⟩ | ⟨_, _, ⟨⟩⟩ | ⟨_, _, _, ⟨⟩⟩⟩ := step_cases D r r1 _ hs
    simpa [ReadRes.bytes] using h
  | case6 _ r _ hp he r1 e hs => simpa [ReadRes.bytes] using hstep g r r1 e h (by simpa using hp) he hs
  | case7 _ r _ hp he r1 e hs _ _ ih => exact ih (hstep g r r1 e h (by simpa using hp) he hs)

/-- a sequence of Read calls with the given destination sizes -/
def readMany (D : Decoder δ) (fuel : Nat) (r : RState δ) : List Nat → RState δ × List ReadRes
  | [] => (r, [])
  | w :: ws =>
    let (r1, res) := read D fuel r w
    let (r2, rs) := readMany D fuel r1 ws
    (r2, res :: rs)

/-- all bytes handed out by a sequence of Read results -/
def delivered (rs : List ReadRes) : List UInt8 := (rs.map ReadRes.bytes).flatten

theorem readMany_rule (D : Decoder δ) (fuel : Nat) (P : List UInt8 → RState δ → Prop)
    (hread : ∀ g r w, P g r → P (g ++ (read D fuel r w).2.bytes) (read D fuel r w).1)
    (r : RState δ) (ws : List Nat) (g : List UInt8) (h : P g r) :
    P (g ++ delivered (readMany D fuel r ws).2) (readMany D fuel r ws).1 := by
  induction ws generalizing r g with
  | nil => simpa [readMany, delivered] using h
  | cons w ws ih => simpa [readMany, delivered, List.append_assoc] using ih _ _ (hread g r w h)

end Fastgo.Reader
