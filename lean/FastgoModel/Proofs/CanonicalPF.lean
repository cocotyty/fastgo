import FastgoModel.Spec.Inflate
/-
  RFC 1951's canonical Huffman code is prefix-free whenever the code lengths are at most L and their Kraft sum is at
  most 1 — exactly what the specification's acceptance test `lensOK` checks (L = 15). Numeric core: a code of length l,
  padded to any greater length m, stays below next_code[m] (code_below), so the intervals of codes of increasing length
  follow each other (start, width, disjoint_lt); a code fits its length (codeOf_fits, from the Kraft bound via
  firstCode_top); a codeword that is a prefix of another is the other shifted right (prefix_codes). Consequence
  (Proofs/BlockFrame.lean): the locality theorems need no prefix-freeness side condition.
-/

namespace Fastgo.Spec


/-- `next_code` only grows: the first code of length `l`, padded to length `m`, is at most the first code of length `m` -/
theorem firstCode_mono (lens : List Nat) (l m : Nat) (h : l ≤ m) : firstCode lens l * 2 ^ (m - l) ≤ firstCode lens m := by
  induction m with
  | zero => simp [Nat.le_zero.1 h]
  | succ k ih =>
    by_cases hk : l = k + 1
    · simp [hk]
    · have := ih (by omega)
      rw [firstCode, show k + 1 - l = (k - l) + 1 by omega, Nat.pow_succ, ← Nat.mul_assoc]
      omega

theorem getD_eq (lens : List Nat) (i : Nat) (hi : i < lens.length) : lens.getD i 0 = lens[i] := by
  simp [List.getD_eq_getElem?_getD, hi]

theorem take_count_lt (lens : List Nat) (i : Nat) (hi : i < lens.length) :
    (lens.take i).count (lens.getD i 0) < lens.count (lens.getD i 0) := by
  rw [getD_eq lens i hi]
  have h : lens.count lens[i] = (lens.take i).count lens[i] + (lens.drop i).count lens[i] := by
    rw [← List.count_append, List.take_append_drop]
  rw [h, List.drop_eq_getElem_cons hi, List.count_cons_self]
  omega

theorem rank_lt (lens : List Nat) (i : Nat) (hi : i < lens.length) (hl : lens.getD i 0 ≠ 0) :
    rank lens i < blCount lens (lens.getD i 0) := by
  unfold rank blCount
  simp only [hl, if_false]
  exact take_count_lt lens i hi

theorem rank_lt_of_lt (lens : List Nat) (i j : Nat) (h : i < j) (hj : j < lens.length)
    (hl : lens.getD i 0 = lens.getD j 0) : rank lens i < rank lens j := by
  unfold rank
  have ht : lens.take i = (lens.take j).take i := by rw [List.take_take]; congr 1; omega
  have hgi : (lens.take j).getD i 0 = lens.getD i 0 := by
    simp [List.getD_eq_getElem?_getD, h]
  have := take_count_lt (lens.take j) i (by simp; omega)
  rw [hgi, ← ht] at this
  rw [← hl]; exact this

theorem rank_inj (lens : List Nat) (i j : Nat) (hi : i < lens.length) (hj : j < lens.length)
    (hl : lens.getD i 0 = lens.getD j 0) (hr : rank lens i = rank lens j) : i = j := by
  rcases Nat.lt_trichotomy i j with h | h | h
  · have := rank_lt_of_lt lens i j h hj hl; omega
  · exact h
  · have := rank_lt_of_lt lens j i h hi hl.symm; omega

def start (lens : List Nat) (L i : Nat) : Nat := codeOf lens i * 2 ^ (L - lens.getD i 0)
def width (lens : List Nat) (L i : Nat) : Nat := 2 ^ (L - lens.getD i 0)

/-- the code of symbol `i`, and with it everything it is a prefix of, stays below `next_code` of every greater length `m` -/
theorem code_below (lens : List Nat) (i m : Nat) (hi : i < lens.length) (hl : lens.getD i 0 ≠ 0) (hm : lens.getD i 0 < m) :
    (codeOf lens i + 1) * 2 ^ (m - lens.getD i 0) ≤ firstCode lens m := by
  have hr := rank_lt lens i hi hl
  have h1 := firstCode_mono lens (lens.getD i 0 + 1) m hm
  have h2 : (codeOf lens i + 1) * 2 ≤ firstCode lens (lens.getD i 0 + 1) := by
    rw [firstCode, codeOf]; omega
  rw [show m - lens.getD i 0 = (m - (lens.getD i 0 + 1)) + 1 by omega, Nat.pow_succ, Nat.mul_comm _ 2, ← Nat.mul_assoc]
  exact Nat.le_trans (Nat.mul_le_mul_right _ h2) h1

theorem disjoint_lt (lens : List Nat) (L i j : Nat) (hi : i < lens.length)
    (hli : lens.getD i 0 ≠ 0) (hlt : lens.getD i 0 < lens.getD j 0) (hL : lens.getD j 0 ≤ L) :
    start lens L i + width lens L i ≤ start lens L j := by
  have h := code_below lens i _ hi hli hlt
  have h2 : (codeOf lens i + 1) * 2 ^ (lens.getD j 0 - lens.getD i 0) ≤ codeOf lens j := by
    unfold codeOf at h ⊢; omega
  unfold start width
  rw [show L - lens.getD i 0 = (lens.getD j 0 - lens.getD i 0) + (L - lens.getD j 0) by omega, Nat.pow_add,
    ← Nat.add_one_mul, ← Nat.mul_assoc]
  exact Nat.mul_le_mul_right _ h2


theorem blCount_cons (x : Nat) (lens : List Nat) (l : Nat) :
    blCount (x :: lens) l = blCount lens l + (if x = l ∧ l ≠ 0 then 1 else 0) := by
  unfold blCount
  by_cases hl : l = 0
  · simp [hl]
  · simp only [hl, if_false, List.count_cons, ne_eq, not_false_eq_true, and_true, beq_iff_eq]

theorem firstCode_cons (x : Nat) (lens : List Nat) : ∀ l,
    firstCode (x :: lens) l = firstCode lens l + (if 0 < x ∧ x < l then 2 ^ (l - x) else 0) := by
  intro l
  induction l with
  | zero => simp [firstCode]
  | succ l ih =>
    simp only [firstCode, ih, blCount_cons]
    by_cases hA : 0 < x ∧ x < l
    · rw [if_pos hA, if_neg (by omega), if_pos (by omega), Nat.succ_sub (by omega), Nat.pow_succ]; omega
    by_cases hB : x = l ∧ l ≠ 0
    · rw [if_neg hA, if_pos hB, if_pos (by omega), hB.1, Nat.add_sub_cancel_left]; omega
    · rw [if_neg hA, if_neg hB, if_neg (by omega)]; omega

theorem firstCode_nil : ∀ l, firstCode [] l = 0 := by
  intro l
  induction l with
  | zero => rfl
  | succ l ih => simp [firstCode, ih, blCount]

theorem foldl_kraft_shift (L : Nat) (xs : List Nat) : ∀ a,
    xs.foldl (fun a l => a + 2 ^ (L - l)) a = a + xs.foldl (fun a l => a + 2 ^ (L - l)) 0 := by
  induction xs with
  | nil => intro a; simp
  | cons x xs ih =>
    intro a
    simp only [List.foldl_cons]
    rw [ih (a + 2 ^ (L - x)), ih (0 + 2 ^ (L - x))]
    omega

theorem kraft_cons (x : Nat) (lens : List Nat) (L : Nat) :
    kraft (x :: lens) L = (if x ≠ 0 then 2 ^ (L - x) else 0) + kraft lens L := by
  unfold kraft
  by_cases hx : x = 0
  · simp [hx]
  · have : (x :: lens).filter (· ≠ 0) = x :: lens.filter (· ≠ 0) := by simp [hx]
    rw [this, List.foldl_cons, foldl_kraft_shift, if_pos hx]
    omega

/-- twice the Kraft sum is the RFC's next_code one length beyond the maximum -/
theorem firstCode_top (lens : List Nat) (L : Nat) (hall : ∀ x ∈ lens, x ≤ L) :
    firstCode lens (L + 1) = 2 * kraft lens L := by
  induction lens with
  | nil => simp [firstCode_nil, kraft]
  | cons x lens ih =>
    have hx : x ≤ L := hall x (List.mem_cons_self)
    have ih' := ih (fun y hy => hall y (List.mem_cons_of_mem _ hy))
    rw [firstCode_cons, kraft_cons, ih']
    by_cases h0 : x = 0
    · simp [h0]
    · have h1 : 0 < x ∧ x < L + 1 := by omega
      simp only [h1, and_self, if_true, ne_eq, h0, not_false_eq_true]
      have : L + 1 - x = (L - x) + 1 := by omega
      rw [this, Nat.pow_succ]
      omega

/-- **every canonical code fits its length** when the lengths are at most `L` and the Kraft sum is at most 1 -/
theorem codeOf_fits (lens : List Nat) (L : Nat) (hall : ∀ x ∈ lens, x ≤ L) (hk : kraft lens L ≤ 2 ^ L)
    (i : Nat) (hi : i < lens.length) (hl : lens.getD i 0 ≠ 0) :
    codeOf lens i < 2 ^ (lens.getD i 0) := by
  have hle : lens.getD i 0 ≤ L := by
    rw [getD_eq lens i hi]; exact hall _ (List.getElem_mem hi)
  -- below next_code[L + 1], which is twice the Kraft sum
  have h := code_below lens i (L + 1) hi hl (by omega)
  rw [firstCode_top lens L hall] at h
  have h4 : (codeOf lens i + 1) * 2 ^ (L + 1 - lens.getD i 0) ≤ 2 ^ (lens.getD i 0) * 2 ^ (L + 1 - lens.getD i 0) := by
    rw [← Nat.pow_add, show lens.getD i 0 + (L + 1 - lens.getD i 0) = L + 1 by omega, Nat.pow_succ]; omega
  exact Nat.le_of_mul_le_mul_right h4 (Nat.pow_pos (by decide))


theorem prefix_codes (ci li cj lj : Nat) (hi : ci < 2 ^ li) (hj : cj < 2 ^ lj)
    (hp : codeBits ci li <+: codeBits cj lj) :
    li ≤ lj ∧ ci * 2 ^ (lj - li) ≤ cj ∧ cj < (ci + 1) * 2 ^ (lj - li) := by
  obtain ⟨t, ht⟩ := hp
  have hlen : li + t.length = lj := by
    have := congrArg List.length ht
    simpa [codeBits] using this
  have hrev : t.reverse ++ natToBits ci li = natToBits cj lj := by
    have := congrArg List.reverse ht
    simpa [codeBits] using this
  have hv := congrArg bitsToNat hrev
  rw [bitsToNat_append, bitsToNat_natToBits ci li hi, bitsToNat_natToBits cj lj hj] at hv
  have hb := bitsToNat_lt t.reverse
  simp only [List.length_reverse] at hv hb
  have hd : lj - li = t.length := by omega
  rw [hd]
  refine ⟨by omega, ?_, ?_⟩
  · rw [← hv, Nat.mul_comm]; omega
  · rw [← hv, Nat.add_mul, Nat.mul_comm ci]; omega

theorem mem_canonical_iff (lens : List Nat) (s : Nat) (cw : Bits) :
    (s, cw) ∈ canonical lens ↔
      s < lens.length ∧ lens.getD s 0 ≠ 0 ∧ cw = codeBits (codeOf lens s) (lens.getD s 0) := by
  unfold canonical
  rw [List.mem_filterMap]
  constructor
  · rintro ⟨i, hi, he⟩
    split at he
    · cases he
    · cases he; exact ⟨List.mem_range.1 hi, ‹_›, rfl⟩
  · rintro ⟨hs, h0, rfl⟩
    exact ⟨s, List.mem_range.2 hs, by rw [if_neg h0]⟩

theorem lookup_canonical (lens : List Nat) (s : Nat) (hs : s < lens.length) (h0 : lens.getD s 0 ≠ 0) :
    ∃ cw, (canonical lens).lookup s = some cw ∧ (s, cw) ∈ canonical lens ∧ cw ≠ [] := by
  have hm := (mem_canonical_iff lens s _).2 ⟨hs, h0, rfl⟩
  have : ((canonical lens).lookup s).isSome := List.lookup_isSome_iff.2 ⟨_, hm, by simp⟩
  obtain ⟨cw, hc⟩ := Option.isSome_iff_exists.1 this
  obtain ⟨l₁, l₂, hl, _⟩ := List.lookup_eq_some_iff.1 hc
  have hmc : (s, cw) ∈ canonical lens := by rw [hl]; simp
  refine ⟨cw, hc, hmc, fun h => h0 ?_⟩
  have := congrArg List.length (((mem_canonical_iff lens s cw).1 hmc).2.2.symm.trans h)
  simpa [codeBits] using this

/-- **the canonical Huffman code of RFC 1951 is prefix-free** whenever the lengths do not exceed `L` and their Kraft sum
    does not exceed 1 (exactly what `lensOK` checks with L = 15) -/
theorem canonical_prefixFree (lens : List Nat) (L : Nat) (hall : ∀ x ∈ lens, x ≤ L) (hk : kraft lens L ≤ 2 ^ L) :
    PrefixFree (canonical lens) := by
  intro a ha b hb _ _ hpre
  obtain ⟨i, cwi⟩ := a
  obtain ⟨j, cwj⟩ := b
  obtain ⟨hi, hli, rfl⟩ := (mem_canonical_iff lens i cwi).1 ha
  obtain ⟨hj, hlj, rfl⟩ := (mem_canonical_iff lens j cwj).1 hb
  have fi := codeOf_fits lens L hall hk i hi hli
  have fj := codeOf_fits lens L hall hk j hj hlj
  obtain ⟨hle, h1, h2⟩ := prefix_codes _ _ _ _ fi fj hpre
  rcases Nat.lt_or_eq_of_le hle with hlt | heq
  · -- a shorter codeword: at the scale of the longer length its interval ends before the longer code starts
    have hd := disjoint_lt lens _ i j hi hli hlt (Nat.le_refl _)
    simp only [start, width, Nat.sub_self, Nat.pow_zero, Nat.mul_one, ← Nat.add_one_mul] at hd
    omega
  · -- equal lengths: equal codes, equal ranks, equal symbols
    rw [heq, Nat.sub_self, Nat.pow_zero, Nat.mul_one] at h1 h2
    have hr : rank lens i = rank lens j := by
      unfold codeOf at h1 h2; rw [heq] at h1 h2; omega
    cases rank_inj lens i j hi hj heq hr
    rfl

theorem canonical_prefixFree_of_lensOK (mode : Mode) (lens : List Nat) (h : lensOK mode lens = true) :
    PrefixFree (canonical lens) := by
  unfold lensOK at h
  by_cases h1 : lens.any (· > 15) = true
  · simp [h1] at h
  · by_cases h2 : kraft lens 15 > 2 ^ 15
    · simp [h1, h2] at h
    · apply canonical_prefixFree lens 15
      · intro x hx
        have : ¬ (x > 15) := by
          intro hgt
          apply h1
          rw [List.any_eq_true]
          exact ⟨x, hx, by simpa using hgt⟩
        omega
      · omega

end Fastgo.Spec
