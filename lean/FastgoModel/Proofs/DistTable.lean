import FastgoModel.Spec.Inflate
/-
  getDistSymbol (lz77.go) against the RFC 1951 distance table: for every distance 1..32768 the (symbol, extra)
  pair the writer emits is decoded back to the same distance. The table has a closed form (`distTable_closed`,
  28 rows by evaluation); the rest is arithmetic on the position of the leading bit.
-/
namespace Fastgo.Spec

/-- port of getDistSymbol (uint32 arithmetic; no overflow in range) -/
def getDistSymbol (dist : Nat) : Nat × Nat :=
  if dist ≤ 2 then (dist - 1, 0) else
  let d := dist - 1
  let msb := Nat.log2 d + 1
  let nx := msb - 2
  (d / 2 ^ nx + 2 * nx, d % 2 ^ nx)

/-- rows 2..29 of the RFC distance table in closed form: two symbols per bit length -/
theorem distTable_closed : ∀ s < 30, 2 ≤ s →
    distExtra.getD s 0 = s / 2 - 1 ∧ distBase.getD s 0 = (2 + s % 2) * 2 ^ (s / 2 - 1) + 1 := by
  decide

/-- a distance `d + 1` whose `d` has its leading bit at position `nx + 1` is coded by the top two bits of `d`
    (symbol) and its low `nx` bits (extra) -/
theorem distRow (d nx : Nat) (hnx : nx ≤ 13) (hlo : 2 ^ (nx + 1) ≤ d) (hhi : d < 2 ^ (nx + 2)) :
    d / 2 ^ nx + 2 * nx < 30 ∧ distBase.getD (d / 2 ^ nx + 2 * nx) 0 + d % 2 ^ nx = d + 1 ∧
    d % 2 ^ nx < 2 ^ distExtra.getD (d / 2 ^ nx + 2 * nx) 0 := by
  have hp : 0 < 2 ^ nx := Nat.pow_pos (by decide)
  rw [Nat.pow_succ] at hlo
  rw [Nat.pow_succ, Nat.pow_succ] at hhi
  have a : 2 ≤ d / 2 ^ nx := (Nat.le_div_iff_mul_le hp).2 (by omega)
  have b : d / 2 ^ nx < 4 := (Nat.div_lt_iff_lt_mul hp).2 (by omega)
  have hdm := Nat.div_add_mod d (2 ^ nx)
  have hm := Nat.mod_lt d hp
  generalize d / 2 ^ nx = q at *
  obtain ⟨t1, t2⟩ := distTable_closed (q + 2 * nx) (by omega) (by omega)
  rw [show (q + 2 * nx) / 2 - 1 = nx by omega] at t1 t2
  rw [show 2 + (q + 2 * nx) % 2 = q by omega] at t2
  rw [t1, t2, Nat.mul_comm q]
  omega

theorem getDistSymbol_decodes (dist : Nat) (h1 : 1 ≤ dist) (h2 : dist ≤ 32768) :
    (getDistSymbol dist).1 < 30 ∧ distBase.getD (getDistSymbol dist).1 0 + (getDistSymbol dist).2 = dist ∧
    (getDistSymbol dist).2 < 2 ^ distExtra.getD (getDistSymbol dist).1 0 := by
  unfold getDistSymbol
  by_cases hs : dist ≤ 2
  · rw [if_pos hs]
    have : dist = 1 ∨ dist = 2 := by omega
    rcases this with rfl | rfl <;> decide
  · rw [if_neg hs]
    have hd : dist - 1 ≠ 0 := by omega
    have hk1 : 1 ≤ (dist - 1).log2 := (Nat.le_log2 hd).2 (by omega)
    have hk2 : (dist - 1).log2 < 15 := (Nat.log2_lt hd).2 (by omega)
    have := distRow (dist - 1) ((dist - 1).log2 - 1) (by omega)
      (by rw [show (dist - 1).log2 - 1 + 1 = (dist - 1).log2 by omega]; exact Nat.log2_self_le hd)
      (by rw [show (dist - 1).log2 - 1 + 2 = (dist - 1).log2 + 1 by omega]; exact Nat.lt_log2_self)
    rw [show dist - 1 + 1 = dist by omega] at this
    exact this

/-- the RFC length table covers `len`: the range of some row contains it (258 only that of the last row). This is what
    expanding token.go's lengthSymbol = matchLength + 254 into (RFC symbol, extra bits) relies on. -/
def lenOK (len : Nat) : Bool :=
  (List.range 29).any fun i => lenBase.getD i 0 ≤ len && len < lenBase.getD i 0 + 2 ^ (lenExtra.getD i 0) &&
    (i < 28 || len = 258) && (len = 258 → i = 28)

theorem all_lens_ok : (List.range 256).all (fun i => lenOK (i + 3)) = true := by decide +kernel

end Fastgo.Spec
