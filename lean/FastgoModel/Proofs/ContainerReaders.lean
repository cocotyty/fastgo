import FastgoModel.Container.Readers
/-
  gzip / zlib Readers: io.EOF is returned only after the running checksum of the bytes handed out has been
  compared with the trailer (C07), and every Read's byte count is the inflater's payload count.
-/
namespace Fastgo.Container
open Fastgo.Spec

/-- one Read, by its result: the byte count is the inflater's; io.EOF only over a trailer that matches the checksum and
    size of everything handed out; and a Read without error (single-member mode) has only added its bytes to them -/
theorem gzReadBody_spec (z : GzReader) (a : InflAns) (after : List UInt8) :
    (gzReadBody z a after).2.1.bytes = a.bytes ∧
    match (gzReadBody z a after).2.1.err with
    | some .eof => ∃ t r, takeN 8 after = some (t, r) ∧
        unle (t.take 4) = (z.sum.update a.bytes).digest.toNat ∧ unle (t.drop 4) = (z.sum.update a.bytes).size
    | none => z.multistream = false → (gzReadBody z a after).1 = { z with sum := z.sum.update a.bytes, err := none }
    | _ => True := by
  -- the inflater's answer is passed on (1); at its io.EOF the trailer is short (2) or wrong (3), or it is verified and
  -- Read stops (4: single member; 5: end of the source), fails on the next header (6, 7) or goes on to the next member (8)
  fun_cases gzReadBody z a after with
  | case1 _ ha =>
    refine ⟨rfl, ?_⟩
    dsimp only
    split
    · exact absurd ‹_› ha
    · exact fun _ => by rw [‹a.err = none›]
    · trivial
  | case2 | case3 | case6 | case7 => exact ⟨rfl, trivial⟩
  | case4 _ _ t r ht hc | case5 _ _ t r ht hc =>
    exact ⟨rfl, t, r, ht, Decidable.not_not.mp fun h => hc (.inl h), Decidable.not_not.mp fun h => hc (.inr h)⟩
  | case8 _ _ _ _ _ _ hm => exact ⟨rfl, fun h => absurd h (by simpa using hm)⟩

theorem gzRun_eof_checked {z : GzReader} (hm : z.multistream = false) (hopen : z.err = none) {D0 : List UInt8}
    (hs : z.sum = GzSum.update {} D0) {after : List UInt8} {as : List InflAns} {D : List UInt8} {z' : GzReader}
    (h : gzRun z after as = (D, some .eof, z')) :
    ∃ t r, takeN 8 after = some (t, r) ∧
      unle (t.take 4) = (crc32 (D0 ++ D)).toNat ∧ unle (t.drop 4) = (D0 ++ D).length % 2 ^ 32 := by
  -- no answers left; the Reader holds an error; this Read ends the run (3); the run goes on (4)
  fun_induction gzRun z after as generalizing D0 D with
  | case1 => cases h
  | case2 _ _ _ _ he => rw [hopen] at he; cases he
  | case3 z a _ _ z1 r _ hb e he =>
    cases h
    obtain ⟨hbytes, hres⟩ := gzReadBody_spec z a after
    rw [hb] at hbytes hres
    dsimp only at hbytes hres
    rw [he] at hres
    rwa [hs, GzSum.update_append, GzSum.init_update, ← hbytes] at hres
  | case4 z a _ _ z1 r _ hb he d e z2 hrun ih =>
    cases h
    obtain ⟨hbytes, hres⟩ := gzReadBody_spec z a after
    rw [hb] at hbytes hres
    dsimp only at hbytes hres
    rw [he] at hres
    cases hres hm
    rw [← List.append_assoc]
    exact ih hm rfl (by rw [hs, hbytes]; exact GzSum.update_append _ _ _) hrun

theorem zReadBody_spec (z : ZReader) (a : InflAns) (after : List UInt8) :
    (zReadBody z a after).2.bytes = a.bytes ∧
    match (zReadBody z a after).2.err with
    | some .eof => ∃ t r, takeN 4 after = some (t, r) ∧ unbe t = adlerValue (adlerUpdate z.digest a.bytes)
    | none => (zReadBody z a after).1 = { digest := adlerUpdate z.digest a.bytes, err := none }
    | _ => True := by
  -- the inflater's answer is passed on (1); at its io.EOF the trailer is short (2), wrong (3) or verified (4)
  fun_cases zReadBody z a after with
  | case1 _ ha =>
    refine ⟨rfl, ?_⟩
    dsimp only
    split
    · exact absurd ‹_› ha
    · rw [‹a.err = none›]
    · trivial
  | case2 | case3 => exact ⟨rfl, trivial⟩
  | case4 _ _ t r ht hc => exact ⟨rfl, t, r, ht, Decidable.not_not.mp hc⟩

theorem zRun_eof_checked {z : ZReader} (hopen : z.err = none) {D0 : List UInt8} (hs : z.digest = adlerUpdate (1, 0) D0)
    {after : List UInt8} {as : List InflAns} {D : List UInt8} {z' : ZReader}
    (h : zRun z after as = (D, some .eof, z')) :
    ∃ t r, takeN 4 after = some (t, r) ∧ unbe t = adler32 (D0 ++ D) := by
  -- cases as in `gzRun_eof_checked`
  fun_induction zRun z after as generalizing D0 D with
  | case1 => cases h
  | case2 _ _ _ _ he => rw [hopen] at he; cases he
  | case3 z a _ _ z1 r hb e he =>
    cases h
    obtain ⟨hbytes, hres⟩ := zReadBody_spec z a after
    rw [hb] at hbytes hres
    dsimp only at hbytes hres
    rw [he] at hres
    rwa [hs, adlerUpdate_append, ← hbytes] at hres
  | case4 z a _ _ z1 r hb he d e z2 hrun ih =>
    cases h
    obtain ⟨hbytes, hres⟩ := zReadBody_spec z a after
    rw [hb] at hbytes hres
    dsimp only at hbytes hres
    rw [he] at hres
    cases hres
    rw [← List.append_assoc]
    exact ih rfl (by rw [hs, hbytes]; exact adlerUpdate_append _ _ _) hrun

end Fastgo.Container
