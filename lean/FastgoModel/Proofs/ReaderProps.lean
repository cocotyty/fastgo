import FastgoModel.Proofs.ReaderControl
/-
  Consequences of the Reader invariant: the decoder is fed a prefix of the stream (C04), Read blocks only when
  starved (C11), source errors surface unchanged and late (C15).
-/
namespace Fastgo.Reader
variable {δ : Type}

theorem fed_prefix (S : List UInt8) (r : RState δ) (hi : Inv S r) : r.fed <+: S := by
  rw [hi.fedPre, ← hi.total, Bufio.stream, ← List.append_assoc]
  exact (List.take_prefix _ _).trans (List.prefix_append _ _)

/-- Read goes back to the source and finds it silent only after the decoder has been handed every byte the
    source ever delivered, has consumed its whole input slice, did not stop for lack of output space, and the
    stream has not ended -/
theorem step_blocked (D : Decoder δ) (S : List UInt8) (r r' : RState δ) (hi : Inv S r)
    (h : step D r = (r', .blocked)) :
    r' = r ∧ r.input = none ∧ r.ended = false ∧ r.finished = false ∧ r.fed = S := by
  obtain ⟨_, _, ⟨⟩⟩ | ⟨hnf, ⟨ha, hr, _⟩ | ⟨_, _, ⟨⟩⟩ | ⟨_, _, _, ⟨⟩⟩⟩ := step_cases D r r' _ h
  have hai := acquire_inv S r hi hnf
  rw [ha] at hai
  exact ⟨hr, hai.1, hai.2.1, hnf, hai.2.2⟩

theorem read_blocked (D : Decoder δ) (hs : D.Sane) (S : List UInt8) (fuel : Nat) (r r' : RState δ) (want : Nat)
    (hi : Inv S r) (h : read D fuel r want = (r', .blocked)) :
    r'.pending = [] ∧ r'.input = none ∧ r'.ended = false ∧ r'.finished = false ∧ r'.fed = S := by
  -- cases as in `read_rule`: only a blocked step() (5) ends Read this way; (7) is the loop
  fun_induction read D fuel r want with
  | case5 _ r _ hp _ r1 hst =>
    cases h
    obtain ⟨rfl, hb⟩ := step_blocked D S r r' hi hst
    exact ⟨by simpa using hp, hb⟩
  | case7 _ r _ _ _ r1 e hst _ _ ih =>
    exact ih (inv_pending_err S r1 (step_inv D hs S r hi hst) _ _) h
  | _ => cases (Prod.mk.inj h).2

/-- a source error reaches the caller unchanged, and only after every byte delivered before it was decoded -/
theorem step_source_error (D : Decoder δ) (S : List UInt8) (r r' : RState δ) (hi : Inv S r) (e : SErr)
    (h : step D r = (r', .err (some (.src e)))) :
    (∃ id, e = .fail id) ∧ r'.input = none ∧ r'.fed.length = r'.gone.length + r'.bio.buf.length ∧ r'.pending = r.pending := by
  obtain ⟨_, _, ⟨⟩⟩ | ⟨hnf, ⟨_, _, ⟨⟩⟩ | ⟨e0, ha, he⟩ | ⟨r1, _, _, he⟩⟩ := step_cases D r r' _ h
  · have hai := acquire_inv S r hi hnf
    have has := acquire_spec r
    rw [ha] at hai has
    obtain ⟨_, hin, hall, id, rfl⟩ := hai
    obtain ⟨_, b, _, _, _, rfl, _⟩ := has
    cases he
    exact ⟨⟨id, rfl⟩, hin, hall, rfl⟩
  · rw [(afterDecode_spec D r1).1] at he
    exact absurd (StepRes.err.inj he).symm ((stepErr_spec _ _).2.2.2 e)

end Fastgo.Reader
