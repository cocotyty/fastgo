import FastgoModel.Container.WriterWrap
import FastgoModel.Proofs.WriterStream
import FastgoModel.Proofs.HuffStream
/-
  gzip / zlib Writers over an inner DEFLATE Writer that meets the stream contract `InnerStream`:
  what the destination holds after a successful Flush / Close is header ++ DEFLATE bytes (++ trailer), where the
  DEFLATE bytes are a flush-point prefix / a complete stream of exactly the data written.
-/
namespace Fastgo.CWriter
open Fastgo.Spec Fastgo.Writer Fastgo.Container

/-- contract of the inner Writer as the wrappers see it. `T base H D i`: the inner stream began after the first
    `base` bytes `H` of the destination and has been given the data `D`. -/
structure InnerStream {ι : Type} (O : InnerOps ι) (mode : Mode) where
  T : Nat → List UInt8 → List UInt8 → ι → Prop
  Fresh : ι → Prop
  dst_withDst : ∀ i d, O.dst (O.withDst i d) = d
  fresh_withDst : ∀ i d, Fresh i → Fresh (O.withDst i d)
  fresh_reset : ∀ i d, Fresh (O.reset i d) ∧ O.dst (O.reset i d) = d
  start : ∀ i, Fresh i → (O.dst i).Healthy → T (O.dst i).bytes.length (O.dst i).bytes [] i
  frame : ∀ base H D i, T base H D i →
    (O.dst i).Healthy ∧ base ≤ (O.dst i).bytes.length ∧ (O.dst i).bytes.take base = H
  write : ∀ base H D i p, T base H D i → (O.write i p).2.err = none →
    T base H (D ++ p.take (O.write i p).2.n) (O.write i p).1
  flush : ∀ base H D i, T base H D i →
    (O.flush i).2.err = none ∧ T base H D (O.flush i).1 ∧
    ∃ n, Chain mode n 0 (bytesToBits (body base (O.dst (O.flush i).1))) #[] D
  write_nil : ∀ base H D i, T base H D i → (O.write i []).2.err = none
  close : ∀ base H D i, T base H D i →
    (O.close i).2.err = none ∧ ClosedStream mode D (body base (O.dst (O.close i).1)) ∧
    (O.dst (O.close i).1).Healthy ∧ base ≤ (O.dst (O.close i).1).bytes.length ∧
    (O.dst (O.close i).1).bytes.take base = H

theorem bytes_split {d : Dst} {base : Nat} {H : List UInt8} (h : d.bytes.take base = H) :
    d.bytes = H ++ body base d := by
  unfold body; rw [← h, List.take_append_drop]

variable {ι : Type}

/-! What both wrappers do to the shared destination, for any header bytes `H` and trailer bytes `tr`. The results of
    `put` / `putAll` / `close` are given as equations, so that a `match` on them in the model rewrites away. -/
section
variable {O : InnerOps ι} {mode : Mode} (C : InnerStream O mode) {i : ι}

theorem put_healthy (c : List UInt8) (hh : (O.dst i).Healthy) :
    ∃ i', O.put i c = (i', true) ∧ (O.dst i').Healthy ∧ (O.dst i').bytes = (O.dst i).bytes ++ c ∧
      (C.Fresh i → C.Fresh i') := by
  obtain ⟨d, e, hd, hb⟩ := write_ok (O.dst i) hh c
  refine ⟨O.withDst i d, by unfold InnerOps.put; rw [e], ?_, ?_, C.fresh_withDst _ _⟩
  all_goals rw [C.dst_withDst]; assumption

theorem putAll_healthy (cs : List (List UInt8)) : ∀ {i : ι}, (O.dst i).Healthy →
    ∃ i', O.putAll i cs = (i', true) ∧ (O.dst i').Healthy ∧ (O.dst i').bytes = (O.dst i).bytes ++ cs.flatten ∧
      (C.Fresh i → C.Fresh i') := by
  induction cs with
  | nil => exact fun hh => ⟨_, rfl, hh, by simp, id⟩
  | cons c cs ih =>
    intro i hh
    obtain ⟨i1, e1, h1, b1, f1⟩ := put_healthy C c hh
    obtain ⟨i2, e2, h2, b2, f2⟩ := ih h1
    refine ⟨i2, ?_, h2, by rw [b2, b1]; simp, f2 ∘ f1⟩
    rw [InnerOps.putAll, e1]; exact e2

/-- the header step: `h` is what `ZInv.before` / `GCore.before` give, `h'` what `put_healthy` / `putAll_healthy` give -/
theorem InnerStream.start_append {D H : List UInt8} {i' : ι}
    (h : C.Fresh i ∧ (O.dst i).Healthy ∧ (O.dst i).got = [] ∧ D = [])
    (h' : (O.dst i').Healthy ∧ (O.dst i').bytes = (O.dst i).bytes ++ H ∧ (C.Fresh i → C.Fresh i')) :
    C.T H.length H D i' := by
  obtain ⟨hf, _, hg, rfl⟩ := h
  obtain ⟨hh, hb, hf'⟩ := h'
  have := C.start i' (hf' hf) hh
  rwa [hb, bytes_nil hg] at this

theorem InnerStream.flush_bytes {base : Nat} {H D : List UInt8} (hT : C.T base H D i) :
    (O.flush i).2.err = none ∧ C.T base H D (O.flush i).1 ∧
    ∃ b n, (O.dst (O.flush i).1).bytes = H ++ b ∧ Chain mode n 0 (bytesToBits b) #[] D := by
  obtain ⟨f1, f2, n, f3⟩ := C.flush _ _ _ _ hT
  exact ⟨f1, f2, _, n, bytes_split (C.frame _ _ _ _ f2).2.2, f3⟩

theorem InnerStream.close_put {base : Nat} {H D : List UInt8} (hT : C.T base H D i) (tr : List UInt8) :
    ∃ i1 r i2 b, O.close i = (i1, r) ∧ r.err = none ∧ O.put i1 tr = (i2, true) ∧
      (O.dst i2).bytes = H ++ b ++ tr ∧ ClosedStream mode D b := by
  obtain ⟨c1, c2, c3, _, c5⟩ := C.close _ _ _ _ hT
  obtain ⟨i2, e, _, b, _⟩ := put_healthy C tr c3
  exact ⟨_, _, i2, _, rfl, c1, e, by rw [b, bytes_split c5], c2⟩

end

/-- the zlib Writer is open, has (or has not yet) written its header, and the inner stream holds `D` -/
structure ZInv (O : InnerOps ι) {mode : Mode} (C : InnerStream O mode) (D : List UInt8) (z : ZW ι) : Prop where
  err : z.err = none
  open_ : z.closed = false
  adler : z.adler = adlerUpdate (1, 0) D
  before : z.wroteHeader = false → C.Fresh z.inner ∧ (O.dst z.inner).Healthy ∧ (O.dst z.inner).got = [] ∧ D = []
  after : z.wroteHeader = true → C.T (emitZHeader z.level none).length (emitZHeader z.level none) D z.inner

/-- zlib: a stored error implies the header step has been taken (it is the only thing that runs before the check) -/
def ZErrInv (z : ZW ι) : Prop := z.err ≠ none → z.wroteHeader = true

theorem zHeader_noop (O : InnerOps ι) (z : ZW ι) (hw : z.wroteHeader = true) : zHeader O z = z :=
  if_pos hw

/-- no operation touches the level; the header step sets `wroteHeader` and the others leave it -/
theorem zHeader_frame (O : InnerOps ι) (z : ZW ι) :
    (zHeader O z).level = z.level ∧ (zHeader O z).wroteHeader = true := by
  unfold zHeader; split
  · exact ⟨rfl, ‹_›⟩
  · split <;> exact ⟨rfl, rfl⟩

theorem zWrite1_frame (O : InnerOps ι) (z1 : ZW ι) (p : List UInt8) :
    (zWrite1 O z1 p).1.level = z1.level ∧ (zWrite1 O z1 p).1.wroteHeader = z1.wroteHeader := by
  unfold zWrite1; repeat' split
  all_goals exact ⟨rfl, rfl⟩

theorem zFlush1_frame (O : InnerOps ι) (z1 : ZW ι) :
    (zFlush1 O z1).1.level = z1.level ∧ (zFlush1 O z1).1.wroteHeader = z1.wroteHeader := by
  unfold zFlush1; repeat' split
  all_goals exact ⟨rfl, rfl⟩

theorem zClose1_frame (O : InnerOps ι) (z1 : ZW ι) :
    (zClose1 O z1).1.level = z1.level ∧ (zClose1 O z1).1.wroteHeader = z1.wroteHeader := by
  unfold zClose1; repeat' split
  all_goals exact ⟨rfl, rfl⟩

/-- under the invariant the header step only replaces the inner Writer and sets `wroteHeader`: as an equation, so that
    every other field of the result is that of `z` by reduction -/
theorem zHeader_eq {O : InnerOps ι} {mode : Mode} (C : InnerStream O mode) {D : List UInt8} {z : ZW ι}
    (hi : ZInv O C D z) :
    ∃ i, zHeader O z = { z with inner := i, wroteHeader := true } ∧
      C.T (emitZHeader z.level none).length (emitZHeader z.level none) D i := by
  unfold zHeader
  cases hw : z.wroteHeader
  · obtain ⟨i, e, a⟩ := put_healthy C (emitZHeader z.level none) (hi.before hw).2.1
    exact ⟨i, by rw [if_neg Bool.false_ne_true, e, hi.err], C.start_append (hi.before hw) a⟩
  · exact ⟨z.inner, by rw [if_pos rfl, ← hw], hi.after hw⟩

theorem zWrite_inv (O : InnerOps ι) {mode : Mode} (C : InnerStream O mode) (D p : List UInt8) (z : ZW ι)
    (hi : ZInv O C D z) (he : (zWrite O z p).2.err = none) (hn : (zWrite O z p).2.n = p.length) :
    ZInv O C (D ++ p) (zWrite O z p).1 := by
  obtain ⟨i, e, hT⟩ := zHeader_eq C hi
  have hw := C.write _ _ D i p hT
  unfold zWrite at he hn ⊢
  rw [e] at he hn ⊢
  unfold zWrite1 at he hn ⊢
  generalize O.write i p = wr at he hn hw ⊢
  obtain ⟨i', r⟩ := wr
  simp only [hi.err] at he hn hw ⊢
  by_cases hp : p = []
  · rw [if_pos hp, hp, List.append_nil]
    exact ⟨rfl, hi.open_, hi.adler, nofun, fun _ => hT⟩
  · rw [if_neg hp] at he hn ⊢
    have he' : r.err = none := by split at he <;> exact he
    simp only [he', forall_const] at hn hw ⊢
    rw [hn, List.take_length] at hw
    exact ⟨rfl, hi.open_, by rw [hi.adler, adlerUpdate_append], nofun, fun _ => hw⟩

/-- **zlib flush point**: after a successful Flush the destination holds the 2-byte header followed by a chain of
    complete non-final DEFLATE blocks for all the data written so far -/
theorem zFlush_spec (O : InnerOps ι) {mode : Mode} (C : InnerStream O mode) (D : List UInt8) (z : ZW ι)
    (hi : ZInv O C D z) :
    (zFlush O z).2.err = none ∧ ZInv O C D (zFlush O z).1 ∧
    ∃ bodyBytes n, (O.dst (zFlush O z).1.inner).bytes = emitZHeader z.level none ++ bodyBytes ∧
      Chain mode n 0 (bytesToBits bodyBytes) #[] D := by
  obtain ⟨i, e, hT⟩ := zHeader_eq C hi
  obtain ⟨f1, f2, b, n, f3, f4⟩ := C.flush_bytes hT
  simp only [zFlush, e, zFlush1, hi.err]
  exact ⟨f1, ⟨f1, hi.open_, hi.adler, nofun, fun _ => f2⟩, b, n, f3, f4⟩

/-- **zlib Close**: the destination holds header ++ one complete DEFLATE stream of exactly the data ++ the
    big-endian Adler-32 of the data -/
theorem zClose_spec (O : InnerOps ι) {mode : Mode} (C : InnerStream O mode) (D : List UInt8) (z : ZW ι)
    (hi : ZInv O C D z) :
    (zClose O z).2.err = none ∧ (zClose O z).1.closed = true ∧
    ∃ bodyBytes, (O.dst (zClose O z).1.inner).bytes = emitZHeader z.level none ++ bodyBytes ++ emitZTrailer D ∧
      ClosedStream mode D bodyBytes := by
  obtain ⟨i, e, hT⟩ := zHeader_eq C hi
  obtain ⟨i1, r, i2, b, ec, c1, e2, cb, cs⟩ := C.close_put hT (be (adlerValue z.adler) 4)
  rw [hi.adler] at cb
  simp only [zClose, e, zClose1, hi.err, hi.open_, Bool.false_eq_true, if_false, ec, c1, e2]
  exact ⟨trivial, trivial, b, cb, cs⟩


def sumOf (D : List UInt8) : GzSum := { digest := crc32Update 0 D, size := D.length % 2 ^ 32 }

theorem sumOf_update (D p : List UInt8) : (sumOf D).update p = sumOf (D ++ p) := by
  simp only [sumOf, GzSum.update, crc32Update_append, List.length_append, Nat.mod_add_mod]

theorem sumOf_trailer (D : List UInt8) : (sumOf D).trailer = emitTrailer D := rfl

/-- the gzip Writer has no stored error, its running CRC/size are those of `D`, and the inner stream (once the
    header is written) holds `D` -/
structure GCore (O : InnerOps ι) {mode : Mode} (C : InnerStream O mode) (D : List UInt8) (z : GW ι) : Prop where
  err : z.err = none
  sum : z.sum = sumOf D
  before : z.wroteHeader = false → C.Fresh z.inner ∧ (O.dst z.inner).Healthy ∧ (O.dst z.inner).got = [] ∧ D = []
  after : z.wroteHeader = true → C.T (emitHeader z.hdr z.level).length (emitHeader z.hdr z.level) D z.inner

def GInv (O : InnerOps ι) {mode : Mode} (C : InnerStream O mode) (D : List UInt8) (z : GW ι) : Prop :=
  GCore O C D z ∧ z.closed = false

theorem gHeader_eq {O : InnerOps ι} {mode : Mode} (C : InnerStream O mode) {D : List UInt8} {z : GW ι}
    (hi : GCore O C D z) :
    ∃ i, gHeader O z = { z with inner := i, wroteHeader := true } ∧
      C.T (emitHeader z.hdr z.level).length (emitHeader z.hdr z.level) D i := by
  unfold gHeader
  cases hw : z.wroteHeader
  · obtain ⟨i, e, a⟩ := putAll_healthy C (gzHeaderChunks z.hdr z.level) (hi.before hw).2.1
    rw [gzHeaderChunks_flatten] at a
    exact ⟨i, by rw [if_neg Bool.false_ne_true, e], C.start_append (hi.before hw) a⟩
  · exact ⟨z.inner, by rw [if_pos rfl, ← hw], hi.after hw⟩

/-- the state in which Flush / Close find the header written: if need be through the header step and a Write(nil),
    which the inner Writer accepts and which leaves the checksum as it is -/
theorem gWithHeader {O : InnerOps ι} {mode : Mode} (C : InnerStream O mode) {D : List UInt8} {z : GW ι}
    (hi : GCore O C D z) :
    ∃ i, (if z.wroteHeader then z else (gWrite1 O (gHeader O z) []).1) = { z with inner := i, wroteHeader := true } ∧
      C.T (emitHeader z.hdr z.level).length (emitHeader z.hdr z.level) D i := by
  cases hw : z.wroteHeader
  · obtain ⟨i, e, hT⟩ := gHeader_eq C hi
    have he := C.write_nil _ _ D i hT
    have hT' := C.write _ _ D i [] hT he
    rw [if_neg Bool.false_ne_true, e]
    unfold gWrite1
    generalize O.write i [] = wr at he hT' ⊢
    obtain ⟨i', r⟩ := wr
    simp only [hi.err, hi.sum, sumOf_update, List.take_nil, List.append_nil] at he hT' ⊢
    exact ⟨i', by rw [he], hT'⟩
  · exact ⟨z.inner, by rw [if_pos rfl, ← hw], hi.after hw⟩

theorem gWrite_inv (O : InnerOps ι) {mode : Mode} (C : InnerStream O mode) (D p : List UInt8) (z : GW ι)
    (hi : GInv O C D z) (he : (gWrite O z p).2.err = none) (hn : (gWrite O z p).2.n = p.length) :
    GInv O C (D ++ p) (gWrite O z p).1 ∧ (gWrite O z p).1.hdr = z.hdr ∧ (gWrite O z p).1.level = z.level := by
  obtain ⟨i, e, hT⟩ := gHeader_eq C hi.1
  have hw := C.write _ _ D i p hT
  unfold gWrite at he hn ⊢
  rw [hi.1.err] at he hn ⊢
  simp only [e, gWrite1, hi.1.err] at he hn ⊢
  rw [hn, List.take_length] at hw
  exact ⟨⟨⟨he, by rw [hi.1.sum, sumOf_update], nofun, fun _ => hw he⟩, hi.2⟩, trivial, trivial⟩

theorem gFlush_spec (O : InnerOps ι) {mode : Mode} (C : InnerStream O mode) (D : List UInt8) (z : GW ι)
    (hi : GInv O C D z) :
    (gFlush O z).2.err = none ∧ GInv O C D (gFlush O z).1 ∧ (gFlush O z).1.hdr = z.hdr ∧ (gFlush O z).1.level = z.level ∧
    ∃ bodyBytes n, (O.dst (gFlush O z).1.inner).bytes = emitHeader z.hdr z.level ++ bodyBytes ∧
      Chain mode n 0 (bytesToBits bodyBytes) #[] D := by
  obtain ⟨i, e, hT⟩ := gWithHeader C hi.1
  obtain ⟨f1, f2, b, n, f3, f4⟩ := C.flush_bytes hT
  simp only [gFlush, hi.1.err, hi.2, Bool.false_eq_true, if_false, e, gFlush1]
  exact ⟨f1, ⟨⟨f1, hi.1.sum, nofun, fun _ => f2⟩, rfl⟩, trivial, trivial, b, n, f3, f4⟩

/-- **gzip Close**: header ++ one complete DEFLATE stream of exactly the data ++ CRC-32 and length of the data -/
theorem gClose_spec (O : InnerOps ι) {mode : Mode} (C : InnerStream O mode) (D : List UInt8) (z : GW ι)
    (hi : GInv O C D z) :
    (gClose O z).2.err = none ∧ (gClose O z).1.closed = true ∧
    ∃ bodyBytes, (O.dst (gClose O z).1.inner).bytes = emitHeader z.hdr z.level ++ bodyBytes ++ emitTrailer D ∧
      ClosedStream mode D bodyBytes := by
  obtain ⟨i, e, hT⟩ := gWithHeader C (z := { z with closed := true }) ⟨hi.1.err, hi.1.sum, hi.1.before, hi.1.after⟩
  obtain ⟨i1, r, i2, b, ec, c1, e2, cb, cs⟩ := C.close_put hT z.sum.trailer
  rw [hi.1.sum, sumOf_trailer] at cb
  unfold gClose
  rw [e]
  simp only [hi.1.err, hi.2, Bool.false_eq_true, if_false, gClose1, ec, c1, e2]
  exact ⟨trivial, trivial, b, cb, cs⟩

variable {MF Tok σ : Type}

def dynStream (L : DynLeaves MF Tok) {mode : Mode} (S : Sound L mode) (c : Cfg) (hw : 0 < c.window) :
    InnerStream (dynOps L c) mode where
  T := fun base H D w => Tracks L S base H D w
  Fresh := fun w => w.err = none ∧ w.dyn.buf = [] ∧ w.dyn.idx = 0 ∧ w.dyn.processed = 0 ∧ w.dyn.tokens = [] ∧ w.dyn.carry = []
  dst_withDst := fun _ _ => rfl
  fresh_withDst := fun _ _ h => h
  fresh_reset := fun _ _ => ⟨⟨rfl, rfl, rfl, rfl, rfl, rfl⟩, rfl⟩
  start := fun w hf hh => tracks_fresh L S w hh hf.1 hf.2.1 hf.2.2.1 hf.2.2.2.1 hf.2.2.2.2.1 hf.2.2.2.2.2
  frame := fun _ _ _ _ ht => ⟨ht.2.healthy, ht.2.baseLe, ht.2.pre⟩
  write := fun _ _ D w p ht he => (write_tracks L S c hw D p w ht he).2
  write_nil := by
    intro base H D w ht
    show (Writer.write L c w []).2.err = none
    unfold Writer.write
    rw [ht.1]
    simp [writeLoop_nil]
  flush := by
    intro base H D w ht
    obtain ⟨f1, f2, f3, _, f5⟩ := flush_tracks L S c D w ht.1 ht.2
    exact ⟨f1, ⟨f2, f3⟩, f5⟩
  close := by
    intro base H D w ht
    obtain ⟨c1, _, c3, c4, c5, c6⟩ := close_tracks L S c D w ht
    exact ⟨c1, c3, c4, c5, c6⟩

def huffStream (L : HuffLeaf σ) {mode : Mode} (S : HSound L mode) (max : Nat) : InnerStream (huffOps L max) mode where
  T := fun base H D w => HTracks mode base H D w
  Fresh := fun w => w.err = none ∧ w.huff.buf = [] ∧ w.huff.carry = []
  dst_withDst := fun _ _ => rfl
  fresh_withDst := fun _ _ h => h
  fresh_reset := fun _ _ => ⟨⟨rfl, rfl, rfl⟩, rfl⟩
  start := fun w hf hh => ⟨hf.1, hinv_fresh mode w.huff w.dst hh hf.2.1 hf.2.2⟩
  frame := fun _ _ _ _ ht => ⟨ht.2.healthy, ht.2.baseLe, ht.2.pre⟩
  write := fun _ _ D w p ht he => hWrite_tracks L S max D p w ht he
  write_nil := by
    intro base H D w ht
    show (hWrite L max w []).2.err = none
    unfold hWrite
    rw [ht.1]
    simp [hWriteLoop_nil]
  flush := by
    intro base H D w ht
    obtain ⟨f1, f2, _, f4⟩ := hFlush_tracks L S D w ht
    exact ⟨f1, f2, f4⟩
  close := by
    intro base H D w ht
    obtain ⟨c1, _, c3, c4, c5, c6⟩ := hClose_tracks L S D w ht
    exact ⟨c1, c3, c4, c5, c6⟩

/-- an operation that went through: Write accepted all its bytes, Flush returned nil, Reset targets a fresh
    healthy destination; Close is not part of a history that stays open -/
def accepted : Op → OpRes → Prop
  | .write p, r => r.err = none ∧ r.n = p.length
  | .flush, r => r.err = none
  | .reset d, _ => d.Healthy ∧ d.got = []
  | .close, _ => False

def allAccepted : List Op → List OpRes → Prop
  | op :: ops, r :: rs => accepted op r ∧ allAccepted ops rs
  | [], [] => True
  | _, _ => False

def dataOf (D : List UInt8) : List Op → List UInt8
  | [] => D
  | .write p :: ops => dataOf (D ++ p) ops
  | .reset _ :: ops => dataOf [] ops
  | _ :: ops => dataOf D ops

theorem zinv_fresh (O : InnerOps ι) {mode : Mode} (C : InnerStream O mode) (i : ι) (level : Int)
    (hf : C.Fresh i) (hh : (O.dst i).Healthy) (hg : (O.dst i).got = []) : ZInv O C [] (ZW.init i level) :=
  ⟨rfl, rfl, rfl, fun _ => ⟨hf, hh, hg, rfl⟩, nofun⟩

theorem zRun_inv (O : InnerOps ι) {mode : Mode} (C : InnerStream O mode) (ops : List Op) (D : List UInt8) (z : ZW ι)
    (hi : ZInv O C D z) (ha : allAccepted ops (zRun O z ops).2) :
    ZInv O C (dataOf D ops) (zRun O z ops).1 ∧ (zRun O z ops).1.level = z.level := by
  induction ops generalizing D z with
  | nil => exact ⟨hi, rfl⟩
  | cons op ops ih =>
    obtain ⟨a1, a2⟩ := ha
    cases op with
    | write p =>
      exact (ih _ _ (zWrite_inv O C D p z hi a1.1 a1.2) a2).imp_right
        (·.trans ((zWrite1_frame O _ p).1.trans (zHeader_frame O z).1))
    | flush =>
      exact (ih _ _ (zFlush_spec O C D z hi).2.1 a2).imp_right
        (·.trans ((zFlush1_frame O _).1.trans (zHeader_frame O z).1))
    | close => exact a1.elim
    | reset d =>
      -- `zReset O z d` is `ZW.init (O.reset z.inner d) z.level`
      obtain ⟨f1, f2⟩ := C.fresh_reset z.inner d
      exact ih [] _ (zinv_fresh O C _ z.level f1 (f2.symm ▸ a1.1) (f2.symm ▸ a1.2)) a2


/-- the Header a gzip Writer uses for the current member: Reset returns it to its zero value (OS = 255) -/
def hdrOf (h : GzHeader) : List Op → GzHeader
  | [] => h
  | .reset _ :: ops => hdrOf {} ops
  | _ :: ops => hdrOf h ops

theorem ginv_fresh (O : InnerOps ι) {mode : Mode} (C : InnerStream O mode) (i : ι) (level : Int) (h : GzHeader)
    (hf : C.Fresh i) (hh : (O.dst i).Healthy) (hg : (O.dst i).got = []) : GInv O C [] (GW.init i level h) :=
  ⟨⟨rfl, rfl, fun _ => ⟨hf, hh, hg, rfl⟩, nofun⟩, rfl⟩

theorem gRun_inv (O : InnerOps ι) {mode : Mode} (C : InnerStream O mode) (ops : List Op) (D : List UInt8) (z : GW ι)
    (hi : GInv O C D z) (ha : allAccepted ops (gRun O z ops).2) :
    GInv O C (dataOf D ops) (gRun O z ops).1 ∧ (gRun O z ops).1.level = z.level ∧
    (gRun O z ops).1.hdr = hdrOf z.hdr ops := by
  induction ops generalizing D z with
  | nil => exact ⟨hi, rfl, rfl⟩
  | cons op ops ih =>
    obtain ⟨a1, a2⟩ := ha
    cases op with
    | write p =>
      obtain ⟨h1, h2, h3⟩ := gWrite_inv O C D p z hi a1.1 a1.2
      obtain ⟨i1, i2, i3⟩ := ih _ _ h1 a2
      exact ⟨i1, i2.trans h3, i3.trans (congrArg (hdrOf · ops) h2)⟩
    | flush =>
      obtain ⟨_, h1, h2, h3, _⟩ := gFlush_spec O C D z hi
      obtain ⟨i1, i2, i3⟩ := ih _ _ h1 a2
      exact ⟨i1, i2.trans h3, i3.trans (congrArg (hdrOf · ops) h2)⟩
    | close => exact a1.elim
    | reset d =>
      obtain ⟨f1, f2⟩ := C.fresh_reset z.inner d
      exact ih [] _ (ginv_fresh O C _ z.level {} f1 (f2.symm ▸ a1.1) (f2.symm ▸ a1.2)) a2

end Fastgo.CWriter
