import FastgoModel.Proofs.WriterWrap
import FastgoModel.Proofs.StreamFrame
/-
  End-to-end round trip INSIDE the model, with no inflater hypothesis: what the gzip / zlib Writer control models put on
  the destination for any accepted history (header ++ one complete DEFLATE stream ++ trailer: `gClose_spec`,
  `zClose_spec` after `gRun_inv`, `zRun_inv`), followed by ANY bytes, is read back by the container Reader models over
  the SPECIFICATION inflater as exactly the header, the data written, and those following bytes
  (`specInflater_exact_of_done` from the unconditional frame theorem `inflate_prefix_stable`).
-/
namespace Fastgo.CWriter
open Fastgo.Spec Fastgo.Container Fastgo.Writer

theorem closedStream_exact {mode : Mode} {D b : List UInt8} (h : ClosedStream mode D b) :
    (specInflater mode).Exact b D := by
  obtain ⟨st, rest, hd, hr, _⟩ := closedStream_inflate h
  simpa using specInflater_exact_of_done mode b _ rest st hd hr

theorem gzip_roundtrip_model {ι : Type} (O : InnerOps ι) {mode : Mode} (C : InnerStream O mode)
    (i : ι) (level : Int) (h : GzHeader) (hf : C.Fresh i) (hh : (O.dst i).Healthy) (hg : (O.dst i).got = [])
    (ops : List Writer.Op) (ha : allAccepted ops (gRun O (GW.init i level h) ops).2)
    (hwf : (hdrOf h ops).WF) (after : List UInt8) :
    (gClose O (gRun O (GW.init i level h) ops).1).2.err = none ∧
    readOneMember (specInflater mode) ((O.dst (gClose O (gRun O (GW.init i level h) ops).1).1.inner).bytes ++ after) =
      some (hdrOf h ops, dataOf [] ops, after) := by
  obtain ⟨h1, h2, h3⟩ := gRun_inv O C ops [] _ (ginv_fresh O C i level h hf hh hg) ha
  obtain ⟨he, _, b, hb, hc⟩ := gClose_spec O C _ _ h1
  have := readOneMember_member _ _ hwf level b _ after (closedStream_exact hc)
  rw [gzMember, ← List.append_assoc _ b] at this
  rw [hb, h2, h3]
  exact ⟨he, this⟩

theorem zlib_roundtrip_model {ι : Type} (O : InnerOps ι) {mode : Mode} (C : InnerStream O mode)
    (i : ι) (level : Int) (hf : C.Fresh i) (hh : (O.dst i).Healthy) (hg : (O.dst i).got = [])
    (ops : List Writer.Op) (ha : allAccepted ops (zRun O (ZW.init i level) ops).2) (after : List UInt8) :
    (zClose O (zRun O (ZW.init i level) ops).1).2.err = none ∧
    readZlib (specInflater mode) ((O.dst (zClose O (zRun O (ZW.init i level) ops).1).1.inner).bytes ++ after) =
      some (dataOf [] ops, after) := by
  obtain ⟨h1, h2⟩ := zRun_inv O C ops [] _ (zinv_fresh O C i level hf hh hg) ha
  obtain ⟨he, _, b, hb, hc⟩ := zClose_spec O C _ _ h1
  rw [hb, h2, List.append_assoc, List.append_assoc]
  exact ⟨he, readZlib_stream _ level b _ after (closedStream_exact hc)⟩

end Fastgo.CWriter
