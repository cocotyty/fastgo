import FastgoModel.Proofs.WriterControl
/-
  Write (a ++ b) behaves like Write a; Write b  (the mechanism behind C09): `Accumulate` only copies,
  compression happens exactly when the buffer is full, the slide is decided by `idx` which only
  compression changes.
-/
namespace Fastgo.Writer
variable {MF Tok : Type}

/-- the buffer after Accumulate's optional slide -/
def slid (c : Cfg) (s : Dyn MF Tok) : Dyn MF Tok :=
  if s.idx ≥ 2 * c.window then
    { s with buf := s.buf.drop (s.idx - c.window), idx := s.idx - (s.idx - c.window) }
  else s

theorem slid_of_lt (c : Cfg) (s : Dyn MF Tok) (h : s.idx < 2 * c.window) : slid c s = s :=
  if_neg (Nat.not_le.mpr h)

theorem slid_idx_lt (c : Cfg) (hW : 0 < c.window) (s : Dyn MF Tok) : (slid c s).idx < 2 * c.window := by
  unfold slid; split
  · show s.idx - (s.idx - c.window) < _; omega
  · omega

theorem slid_idem (c : Cfg) (hW : 0 < c.window) (s : Dyn MF Tok) : slid c (slid c s) = slid c s :=
  slid_of_lt c _ (slid_idx_lt c hW s)

/-- room left in the buffer once it has slid -/
def room (c : Cfg) (s : Dyn MF Tok) : Nat := c.cap - (slid c s).buf.length

/-- the buffer after Accumulate has slid it and copied `x` -/
def fill (c : Cfg) (s : Dyn MF Tok) (x : List UInt8) : Dyn MF Tok :=
  { slid c s with buf := (slid c s).buf ++ x }

theorem accumulate_eq (c : Cfg) (s : Dyn MF Tok) (data : List UInt8) :
    accumulate c s data =
      (fill c s (data.take (room c s)), min (room c s) data.length, decide (room c s ≤ data.length)) := by
  show (fill c s (data.take (min (room c s) data.length)), min (room c s) data.length,
      decide (c.cap ≤ ((slid c s).buf ++ data.take (min (room c s) data.length)).length)) = _
  rw [← List.take_eq_take_min, List.length_append, List.length_take, decide_eq_decide.mpr]
  unfold room; omega

theorem slid_fill (c : Cfg) (hW : 0 < c.window) (s : Dyn MF Tok) (x : List UInt8) : slid c (fill c s x) = fill c s x :=
  slid_of_lt c _ (slid_idx_lt c hW s)

theorem fill_fill (c : Cfg) (hW : 0 < c.window) (s : Dyn MF Tok) (x y : List UInt8) :
    fill c (fill c s x) y = fill c s (x ++ y) := by
  have := slid_fill c hW s x
  unfold fill at this ⊢
  rw [this, List.append_assoc]

theorem room_fill (c : Cfg) (hW : 0 < c.window) (s : Dyn MF Tok) (x : List UInt8) :
    room c (fill c s x) = room c s - x.length := by
  unfold room; rw [slid_fill c hW]
  simp only [fill, List.length_append]; omega

theorem writeLoop_nil (L : DynLeaves MF Tok) (c : Cfg) (fuel : Nat) (w : WState MF Tok) (num : Nat) :
    writeLoop L c fuel w [] num = (w, { n := num }) := by
  cases fuel <;> simp [writeLoop]

/-- one iteration, `accumulate` resolved. Data that leaves room is copied whole, so that branch ends the loop. -/
theorem writeLoop_succ (L : DynLeaves MF Tok) (c : Cfg) (fuel : Nat) (w : WState MF Tok) (data : List UInt8) (num : Nat)
    (hd : data ≠ []) :
    writeLoop L c (fuel + 1) w data num =
      if room c w.dyn ≤ data.length then
        match compressBlock L c false false (fuelFor (fill c w.dyn (data.take (room c w.dyn))))
            (fill c w.dyn (data.take (room c w.dyn))) w.dst with
        | (s2, d2, .ok) =>
          if room c w.dyn = 0 then ({ w with dyn := s2, dst := d2 }, { n := num })
          else writeLoop L c fuel { w with dyn := s2, dst := d2 } (data.drop (room c w.dyn)) (num + room c w.dyn)
        | (s2, d2, _) => ({ w with dyn := s2, dst := d2, err := some .injected }, { n := num, err := some .injected })
      else ({ w with dyn := fill c w.dyn data }, { n := num + data.length }) := by
  rw [writeLoop, if_neg hd, accumulate_eq]
  dsimp only
  split
  · rename_i h
    rw [decide_eq_true_eq] at h
    rw [if_pos h, Nat.min_eq_left h]
    rfl
  · rename_i h
    rw [decide_eq_true_eq] at h
    rw [if_neg h, Nat.min_eq_right (by omega), List.take_of_length_le (by omega), List.drop_length, writeLoop_nil]

/-- the fuel, once it exceeds the data, plays no part, and the running count is only added to -/
theorem writeLoop_indep (L : DynLeaves MF Tok) (c : Cfg) (f1 f2 : Nat) (w : WState MF Tok) (data : List UInt8) (n1 n2 : Nat)
    (h1 : data.length < f1) (h2 : data.length < f2) :
    (writeLoop L c f1 w data n1).1 = (writeLoop L c f2 w data n2).1 ∧
    (writeLoop L c f1 w data n1).2.err = (writeLoop L c f2 w data n2).2.err ∧
    (writeLoop L c f1 w data n1).2.n + n2 = (writeLoop L c f2 w data n2).2.n + n1 := by
  induction f1 generalizing f2 w data n1 n2 with
  | zero => omega
  | succ k ih =>
    obtain ⟨m, rfl⟩ : ∃ m, f2 = m + 1 := ⟨f2 - 1, by omega⟩
    by_cases hd : data = []
    · subst hd; rw [writeLoop_nil, writeLoop_nil]; exact ⟨rfl, rfl, Nat.add_comm ..⟩
    · rw [writeLoop_succ L c k w data n1 hd, writeLoop_succ L c m w data n2 hd]
      have hpos := List.length_pos_iff.mpr hd
      split
      · split
        · split
          · exact ⟨rfl, rfl, Nat.add_comm ..⟩
          · rename_i s2 d2 _ _
            have := ih m { w with dyn := s2, dst := d2 } (data.drop (room c w.dyn)) (n1 + room c w.dyn)
              (n2 + room c w.dyn) (by rw [List.length_drop]; omega) (by rw [List.length_drop]; omega)
            exact ⟨this.1, this.2.1, by omega⟩
        · exact ⟨rfl, rfl, Nat.add_comm ..⟩
      · exact ⟨rfl, rfl, by dsimp only; omega⟩

/-- same final state (including the destination), same error; same byte count when there is no error -/
def SameOutcome (x y : WState MF Tok × OpRes) : Prop :=
  x.1 = y.1 ∧ x.2.err = y.2.err ∧ (x.2.err = none → x.2.n = y.2.n)

theorem SameOutcome.of_fuel (L : DynLeaves MF Tok) (c : Cfg) {f1 f2 : Nat} (w : WState MF Tok) {data : List UInt8}
    (num : Nat) (h1 : data.length < f1) (h2 : data.length < f2) :
    SameOutcome (writeLoop L c f1 w data num) (writeLoop L c f2 w data num) := by
  obtain ⟨i1, i2, i3⟩ := writeLoop_indep L c f1 f2 w data num num h1 h2
  exact ⟨i1, i2, fun _ => Nat.add_right_cancel i3⟩

/-- data that leaves room is absorbed: the loop on `a ++ b` and the loop on `b` started in the buffer that holds `a`
    both copy `b.take r` next, `r > 0` the room `a` left -/
theorem writeLoop_absorb (L : DynLeaves MF Tok) (c : Cfg) (hW : 0 < c.window) (w : WState MF Tok) (a b : List UInt8)
    (num f1 f3 : Nat) (hb : b ≠ []) (hfit : a.length < room c w.dyn)
    (h1 : (a ++ b).length < f1) (h3 : b.length < f3) :
    SameOutcome (writeLoop L c f1 w (a ++ b) num)
      (writeLoop L c f3 { w with dyn := fill c w.dyn a } b (num + a.length)) := by
  have hbpos := List.length_pos_iff.mpr hb
  rw [List.length_append] at h1
  obtain ⟨m, rfl⟩ : ∃ m, f1 = m + 1 := ⟨f1 - 1, by omega⟩
  obtain ⟨j, rfl⟩ : ∃ j, f3 = j + 1 := ⟨f3 - 1, by omega⟩
  obtain ⟨r, hroom⟩ : ∃ r, room c w.dyn = a.length + r := ⟨_, (Nat.add_sub_cancel' (Nat.le_of_lt hfit)).symm⟩
  rw [writeLoop_succ L c m w (a ++ b) num (by simp [hb]), writeLoop_succ L c j _ b _ hb]
  dsimp only
  rw [room_fill c hW, fill_fill c hW, fill_fill c hW, hroom, Nat.add_sub_cancel_left, List.length_append,
    List.take_length_add_append, List.drop_length_add_append]
  simp only [Nat.add_le_add_iff_left]
  split
  · generalize compressBlock L c false false _ _ w.dst = cb
    obtain ⟨s2, d2, o⟩ := cb
    cases o with
    | ok =>
      dsimp only
      rw [if_neg (by omega), if_neg (by omega), Nat.add_assoc]
      exact .of_fuel L c _ _ (by rw [List.length_drop]; omega) (by rw [List.length_drop]; omega)
    | failed => exact ⟨rfl, rfl, nofun⟩
    | stuck => exact ⟨rfl, rfl, nofun⟩
  · exact ⟨rfl, rfl, fun _ => by simp [Nat.add_assoc]⟩

/-- the Write loop on `a ++ b`, when the loop on `a` alone took all of `a` and ended in `w1`, goes on as the loop on `b`
    from `w1`. By strong induction on `|a|`: either `a` fills the buffer, and both loops start with the same iteration, or
    it leaves room and is absorbed (`writeLoop_absorb`). The three fuels are independent (`writeLoop_indep`). -/
theorem writeLoop_append (L : DynLeaves MF Tok) (c : Cfg) (hW : 0 < c.window) (n : Nat) :
    ∀ (a b : List UInt8) (w w1 : WState MF Tok) (num f1 f2 f3 : Nat), a.length = n →
      (a ++ b).length < f1 → a.length < f2 → b.length < f3 →
      writeLoop L c f2 w a num = (w1, { n := num + a.length, err := none }) →
      SameOutcome (writeLoop L c f1 w (a ++ b) num) (writeLoop L c f3 w1 b (num + a.length)) := by
  induction n using Nat.strongRecOn with
  | _ n ih =>
    intro a b w w1 num f1 f2 f3 hlen h1 h2 h3 hr
    by_cases ha0 : a = []
    · subst ha0
      rw [writeLoop_nil] at hr
      cases hr
      exact .of_fuel L c w num h1 h3
    · have hapos := List.length_pos_iff.mpr ha0
      obtain ⟨k, rfl⟩ : ∃ k, f2 = k + 1 := ⟨f2 - 1, by omega⟩
      obtain ⟨m, rfl⟩ : ∃ m, f1 = m + 1 := ⟨f1 - 1, by omega⟩
      rw [writeLoop_succ L c k w a num ha0] at hr
      split at hr
      · -- `a` alone fills the buffer: the first iteration on `a ++ b` is the one on `a`
        rename_i hfull
        rw [writeLoop_succ L c m w (a ++ b) num (by simp [ha0]), List.length_append, if_pos (by omega),
          List.take_append_of_le_length hfull, List.drop_append_of_le_length hfull]
        rw [List.length_append] at h1
        split at hr
        · split at hr
          · injection hr with _ hr; injection hr with hr _; omega
          · rename_i hr0
            rw [if_neg hr0]
            have hl : (a.drop (room c w.dyn)).length = a.length - room c w.dyn := List.length_drop
            have hnum : num + a.length = num + room c w.dyn + (a.drop (room c w.dyn)).length := by omega
            rw [hnum] at hr ⊢
            exact ih _ (by omega) _ b _ w1 _ m k f3 hl (by rw [List.length_append]; omega) (by omega) h3 hr
        · injection hr with _ hr; injection hr with _ hr; cases hr
      · rename_i hfit
        cases hr
        by_cases hb0 : b = []
        · subst hb0
          rw [writeLoop_nil, List.append_nil, writeLoop_succ L c m w a num ha0, if_neg hfit]
          exact ⟨rfl, rfl, fun _ => rfl⟩
        · exact writeLoop_absorb L c hW w a b num _ f3 hb0 (Nat.lt_of_not_le hfit) h1 h3

/-- a Write "goes through": it accepts all its bytes and returns nil -/
def WriteOK (L : DynLeaves MF Tok) (c : Cfg) (w : WState MF Tok) (a : List UInt8) : Prop :=
  (write L c w a).2 = { n := a.length, err := none }

theorem write_eq_loop (L : DynLeaves MF Tok) (c : Cfg) (w : WState MF Tok) (data : List UInt8) (h : w.err = none) :
    write L c w data = writeLoop L c (data.length + 1) w data 0 := by
  unfold write; rw [h]

theorem writeOK_open (L : DynLeaves MF Tok) (c : Cfg) (w : WState MF Tok) (a : List UInt8)
    (hopen : w.err = none) (hok : WriteOK L c w a) : (write L c w a).1.err = none :=
  ((write_open L c w a hopen).ok (by rw [hok])).1

theorem write_append (L : DynLeaves MF Tok) (c : Cfg) (hW : 0 < c.window) (w : WState MF Tok) (a b : List UInt8)
    (hopen : w.err = none) (hok : WriteOK L c w a) :
    (write L c w (a ++ b)).1 = (write L c (write L c w a).1 b).1 ∧
    (write L c w (a ++ b)).2.err = (write L c (write L c w a).1 b).2.err ∧
    ((write L c w (a ++ b)).2.err = none → (write L c w (a ++ b)).2.n = a.length + (write L c (write L c w a).1 b).2.n) := by
  rw [write_eq_loop L c _ b (writeOK_open L c w a hopen hok), write_eq_loop L c w (a ++ b) hopen]
  unfold WriteOK at hok
  rw [write_eq_loop L c w a hopen] at hok ⊢
  obtain ⟨h1, h2, h3⟩ := writeLoop_append L c hW a.length a b w (writeLoop L c (a.length + 1) w a 0).1 0 ((a ++ b).length + 1) (a.length + 1) (b.length + 1) rfl
    (Nat.lt_succ_self _) (Nat.lt_succ_self _) (Nat.lt_succ_self _) (Prod.ext rfl (hok.trans (by rw [Nat.zero_add])))
  obtain ⟨i1, i2, i3⟩ := writeLoop_indep L c (b.length + 1) (b.length + 1) (writeLoop L c (a.length + 1) w a 0).1 b
    (0 + a.length) 0 (Nat.lt_succ_self _) (Nat.lt_succ_self _)
  exact ⟨h1.trans i1, h2.trans i2, fun he => by have := h3 he; omega⟩

end Fastgo.Writer
