import FastgoModel.Proofs.ReaderProps
import FastgoModel.Spec.Inflate
/-
  Lossless, in-order delivery by decompressor.Read for any destination sizes, and what io.EOF means, relative to
  the specification inflater under the decoder's leaf contract `Faithful`.
-/
namespace Fastgo.Reader
variable {δ : Type}

open Fastgo.Spec in
/-- output of the specification inflater, however it stopped -/
def specOut : Spec.Result → List UInt8
  | .done out _ _ => out.toList
  | .needMore out _ _ _ => out.toList
  | .corrupt out _ _ => out.toList

open Fastgo.Spec in
/-- Leaf contract of the decoder proper (inflate.go, header.go, huffcode.go, decode*.go/.s) relative to the
    specification inflater, as an invariant `R st fed out ended` over its runs: `fed` = the bytes it has taken so
    far, `out` = everything it has produced so far. -/
structure Faithful (D : Decoder δ) (mode : Mode) where
  R : δ → List UInt8 → List UInt8 → Bool → Prop
  init : R D.init [] [] false
  step : ∀ st fed out e input bl, R st fed out e →
    R (D.run st input bl e).st (fed ++ input.take (D.run st input bl e).k) (out ++ (D.run st input bl e).out)
      (D.run st input bl e).ended
  /-- nothing fabricated: what was produced is what the specification inflater produces from the same bytes -/
  pre : ∀ st fed out e, R st fed out e → out <+: specOut (inflate mode [] fed)
  /-- "stream ended" is only reported when the bytes taken begin with a complete stream, fully decoded -/
  fin : ∀ st fed out, R st fed out true → ∃ rest s, inflate mode [] fed = .done out.toArray rest s

open Fastgo.Spec in
/-- delivery invariant: `given` is everything Read has handed to the caller since NewReader/Reset -/
structure Deliv {D : Decoder δ} {mode : Mode} (F : Faithful D mode) (given : List UInt8) (r : RState δ) : Prop where
  made : ∃ m, given ++ r.pending = m ∧ F.R r.dec r.fed m r.ended
  eofFin : r.err = some .eof → r.finished = true
  finEnd : r.finished = true → r.ended = true

open Fastgo.Spec in
theorem Deliv.rel {D : Decoder δ} {mode : Mode} {F : Faithful D mode} {given : List UInt8} {r : RState δ}
    (h : Deliv F given r) : F.R r.dec r.fed (given ++ r.pending) r.ended := by
  obtain ⟨_, rfl, hR⟩ := h.made
  exact hR

open Fastgo.Spec in
theorem deliv_init {D : Decoder δ} {mode : Mode} (F : Faithful D mode) (bio : Bufio) :
    Deliv F [] (RState.init D bio) :=
  ⟨⟨[], rfl, F.init⟩, (fun h => by cases h), (fun h => by cases h)⟩

open Fastgo.Spec in
theorem deliv_reset {D : Decoder δ} {mode : Mode} (F : Faithful D mode) (r : RState δ) (bio : Bufio) :
    Deliv F [] (RState.reset D r bio) :=
  deliv_init F bio

open Fastgo.Spec in
theorem step_deliv {D : Decoder δ} {mode : Mode} (F : Faithful D mode) (r : RState δ) (given : List UInt8)
    (hd : Deliv F given r) (hp0 : r.pending = []) (r1 : RState δ) (e : Option RE) (hs : step D r = (r1, .err e)) :
    Deliv F given { r1 with err := e } := by
  obtain ⟨hf, rfl, ⟨⟩⟩ | ⟨hnf, ⟨_, _, ⟨⟩⟩ | ⟨e0, ha, ⟨⟩⟩ | ⟨r0, ha, rfl, ⟨⟩⟩⟩ := step_cases D r r1 _ hs
  · exact ⟨hd.made, fun _ => hf, hd.finEnd⟩
  · have has := acquire_spec r
    rw [ha] at has
    obtain ⟨_, b, id, _, _, rfl, rfl⟩ := has
    exact ⟨hd.made, nofun, hd.finEnd⟩
  · -- `Deliv` does not speak of the window or the bufio.Reader, so acquisition leaves it alone
    have h0 : Deliv F given r0 ∧ r0.pending = [] ∧ r0.finished = false := by
      have has := acquire_spec r
      rw [ha] at has
      obtain ⟨rfl, _⟩ | ⟨_, b, eof, _, rfl⟩ := has <;> exact ⟨⟨hd.made, hd.eofFin, hd.finEnd⟩, hp0, hnf⟩
    obtain ⟨hd0, hp, hnf0⟩ := h0
    have hR := hd0.rel
    rw [hp, List.append_nil] at hR
    -- and of the bookkeeping after the run only `decoded` matters
    have hdd : Deliv F given { decoded D r0 with err := stepErr (D.run r0.dec r0.inBytes r0.bitsLen r0.ended) r0.eof } := by
      refine ⟨⟨_, rfl, F.step _ _ _ _ _ _ hR⟩, fun h => ?_, fun h => ?_⟩
      · dsimp only [decoded] at h ⊢
        rw [h]; rfl
      · dsimp only [decoded] at h
        rw [hnf0, Bool.or_false, decide_eq_true_eq] at h
        exact ((stepErr_spec _ _).1 h).1
    rw [(afterDecode_spec D r0).1]
    obtain h | ⟨_, h | h⟩ := (afterDecode_spec D r0).2 <;> rw [h] <;> exact ⟨hdd.made, hdd.eofFin, hdd.finEnd⟩

/-- a Read that reports an error leaves it stored with nothing pending (so it is repeated: `read_sticky`) -/
theorem read_err_state (D : Decoder δ) (fuel : Nat) (r : RState δ) (want : Nat) (e : RE)
    (h : (read D fuel r want).2.err = some e) :
    (read D fuel r want).1.err = some e ∧ (read D fuel r want).1.pending = [] := by
  -- cases as in `read_rule`: an error comes with the last of the pending output (2), from the store (4), or from
  -- step() with nothing to deliver (6)
  fun_induction read D fuel r want with
  | case1 => cases h
  | case2 _ _ _ _ _ _ hp => exact ⟨h, hp⟩
  | case3 => cases h
  | case4 _ r _ hp _ he => exact ⟨he.trans h, by simpa using hp⟩
  | case5 => cases h
  | case6 _ _ _ _ _ _ _ _ _ hret => exact ⟨h, hret.2⟩
  | case7 _ _ _ _ _ _ _ _ _ _ ih => exact ih h

open Fastgo.Spec in
/-- decompressor.Read, any destination size: the bytes handed out extend `given` losslessly, in order, and
    io.EOF is returned only with nothing pending on a finished (hence ended) stream -/
theorem read_deliv {D : Decoder δ} {mode : Mode} (F : Faithful D mode) (fuel : Nat) (r : RState δ) (want : Nat)
    (given : List UInt8) (hd : Deliv F given r) :
    Deliv F (given ++ (read D fuel r want).2.bytes) (read D fuel r want).1 ∧
    ((read D fuel r want).2.err = some .eof → (read D fuel r want).1.pending = [] ∧ (read D fuel r want).1.finished = true) := by
  have h : Deliv F (given ++ (read D fuel r want).2.bytes) (read D fuel r want).1 := by
    refine read_rule D (Deliv F) (fun g r n hd => ?_) (fun g r r1 e hd hp _ hs => step_deliv F r g hd hp r1 e hs)
      fuel r want given hd
    exact ⟨⟨_, by rw [List.append_assoc, List.take_append_drop], hd.rel⟩, hd.eofFin, hd.finEnd⟩
  exact ⟨h, fun he => ⟨(read_err_state D fuel r want _ he).2, h.eofFin (read_err_state D fuel r want _ he).1⟩⟩

open Fastgo.Spec in
theorem readMany_deliv {D : Decoder δ} {mode : Mode} (F : Faithful D mode) (fuel : Nat) (r : RState δ) (ws : List Nat)
    (given : List UInt8) (hd : Deliv F given r) :
    Deliv F (given ++ delivered (readMany D fuel r ws).2) (readMany D fuel r ws).1 :=
  readMany_rule D fuel (Deliv F) (fun g r w hd => (read_deliv F fuel r w g hd).1) r ws given hd

end Fastgo.Reader
