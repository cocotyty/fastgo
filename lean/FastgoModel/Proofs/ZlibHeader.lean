import FastgoModel.Container.Zlib
/-
  parseZHeader (emitZHeader level dict) succeeds: what zlib.Writer writes, zlib.Reader accepts (C06).
-/
namespace Fastgo.Container
open Fastgo.Spec

theorem flevel_cases (level : Int) : flevel level = 0 ∨ flevel level = 1 ∨ flevel level = 2 ∨ flevel level = 3 := by
  unfold flevel
  repeat' split
  all_goals simp

theorem flgByte_spec (level : Int) (d : Bool) :
    flgByte level d < 256 ∧ (0x78 * 256 + flgByte level d) % 31 = 0 ∧ (flgByte level d / 32 % 2 = 1 ↔ d = true) := by
  unfold flgByte
  rcases flevel_cases level with h | h | h | h <;> rw [h] <;> cases d <;> decide

theorem zlib_header_roundtrip (level : Int) (dict : Option (List UInt8)) (rest : List UInt8) :
    parseZHeader dict (emitZHeader level dict ++ rest) = .ok dict.isSome rest := by
  obtain ⟨h1, h2, h3⟩ := flgByte_spec level dict.isSome
  have hc : (0x78 : UInt8).toNat = 0x78 := rfl
  unfold parseZHeader emitZHeader
  rw [List.append_assoc, takeN_append_eq (show [_, _].length = 2 from rfl)]
  simp only [UInt8.toNat_ofNat_of_lt' h1, hc, h2, h3]
  cases dict with
  | none => simp [dictPart]
  | some d => simp [dictPart, takeN_append_eq (be_length _ 4), unbe_be _ 4 (adler32_lt d)]

end Fastgo.Container
