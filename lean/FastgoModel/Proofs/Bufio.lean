import FastgoModel.Reader.Control
/-
  Facts about the bufio.Reader model: fills only append, Peek reports an error only when it cannot satisfy
  the request, the byte stream (what was buffered ++ what the source will still deliver) is never reordered.
-/
namespace Fastgo.Reader

/-- what fills, and handing out a recorded error, do to a bufio.Reader: more is buffered at the end, nothing is
    consumed, the byte stream is the same, and no error turns up that the reader or its source did not hold -/
structure Bufio.Grew (b b1 : Bufio) : Prop where
  buf    : ∃ x, b1.buf = b.buf ++ x
  taken  : b1.taken = b.taken
  stream : b1.stream = b.stream
  errs   : ∀ e, (b1.err = some e ∨ ∃ c ∈ b1.src, c.err = some e) → b.err = some e ∨ ∃ c ∈ b.src, c.err = some e

theorem Bufio.Grew.refl (b : Bufio) : b.Grew b := ⟨⟨[], by simp⟩, rfl, rfl, fun _ h => h⟩

theorem Bufio.Grew.trans {a b c : Bufio} (h1 : a.Grew b) (h2 : b.Grew c) : a.Grew c := by
  obtain ⟨x, hx⟩ := h1.buf
  obtain ⟨y, hy⟩ := h2.buf
  exact ⟨⟨x ++ y, by rw [hy, hx, List.append_assoc]⟩, h2.taken.trans h1.taken, h2.stream.trans h1.stream,
    fun e h => h1.errs e (h2.errs e h)⟩

theorem fill_none {b : Bufio} (h : b.fill = none) : b.src = [] := by
  unfold Bufio.fill at h
  split at h
  · assumption
  · dsimp only at h; split at h <;> cases h

theorem fill_grew {b b1 : Bufio} (h : b.fill = some b1) : b.Grew b1 := by
  unfold Bufio.fill at h
  split at h
  · cases h
  · rename_i c rest hs
    dsimp only at h
    split at h <;> injection h with h <;> subst h
    · exact ⟨⟨_, rfl⟩, rfl, by simp [Bufio.stream, hs], fun e h => Or.inr (by simpa [hs] using h)⟩
    · refine ⟨⟨_, rfl⟩, rfl, ?_, fun e h => by simpa [hs] using h⟩
      simp only [Bufio.stream, hs, List.map_cons, List.flatten_cons, List.append_assoc]
      rw [← List.append_assoc (List.take _ _), List.take_append_drop]

/-- Peek, by outcome. It blocks only on a silent source with fewer than `n` bytes buffered; otherwise the reader only
    grew, and an error is reported only when fewer than `n` bytes are there and the source produced it. -/
theorem peek_spec (n fuel : Nat) (b : Bufio) :
    match Bufio.peek n fuel b with
    | .blocked => ∃ b1, b.Grew b1 ∧ b1.src = [] ∧ b1.buf.length < n
    | .got b1 e _ => b.Grew b1 ∧ ∀ e0, e = some e0 →
        b1.buf.length < n ∧ (b.err = some e0 ∨ ∃ c ∈ b.src, c.err = some e0) := by
  -- out of fuel; the source is silent; one fill, then Peek again; a recorded error is handed out; buffer full;
  -- enough bytes are there
  fun_induction Bufio.peek n fuel b with
  | case1 b => exact ⟨.refl b, fun _ h => nomatch h⟩
  | case2 _ b hc hf => exact ⟨b, .refl b, fill_none hf, hc.1⟩
  | case3 _ b _ b1 hf ih =>
    have hg := fill_grew hf
    split at ih
    · obtain ⟨b2, h2, hs, hl⟩ := ih
      exact ⟨b2, hg.trans h2, hs, hl⟩
    · exact ⟨hg.trans ih.1, fun e0 he => ⟨(ih.2 e0 he).1, hg.errs e0 (ih.2 e0 he).2⟩⟩
  | case4 _ b _ hlt e he =>
    exact ⟨⟨⟨[], by simp⟩, rfl, rfl, fun _ h => h.imp_left nofun⟩, fun e0 h => ⟨hlt, .inl (he.trans h)⟩⟩
  | case5 _ b => exact ⟨.refl b, fun _ h => nomatch h⟩
  | case6 _ b => exact ⟨.refl b, fun _ h => nomatch h⟩

end Fastgo.Reader
