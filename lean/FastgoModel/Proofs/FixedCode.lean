import FastgoModel.Proofs.CanonicalPF
/-
  RFC 1951's fixed Huffman code (section 3.2.6): it is the canonical code of lengths that pass `lensOK`, hence
  prefix-free; every literal and the end-of-block symbol has a non-empty codeword, because all 288 lengths are non-zero.
-/
namespace Fastgo.Spec

def fixLit : List (Nat × Bits) := canonical fixedLitLens
def fixDist : List (Nat × Bits) := canonical (fixedDistLens ++ [5, 5])

/-- codeword of a literal/length symbol in the fixed code -/
def cw (s : Nat) : Bits := (fixLit.lookup s).getD []

theorem fixLit_prefixFree : PrefixFree fixLit :=
  canonical_prefixFree_of_lensOK .strict _ (by decide +kernel)

theorem fixDist_prefixFree : PrefixFree fixDist :=
  canonical_prefixFree_of_lensOK .strict _ (by decide +kernel)

theorem fixedLitLens_length : fixedLitLens.length = 288 := by
  simp only [fixedLitLens, List.length_append, List.length_replicate]

theorem fixedLitLens_ne_zero (s : Nat) (hs : s < 288) : fixedLitLens.getD s 0 ≠ 0 := by
  have hl := fixedLitLens_length
  have : ∀ x ∈ fixedLitLens, x ≠ 0 := by
    intro x hx
    simp only [fixedLitLens, List.mem_append, List.mem_replicate] at hx
    omega
  rw [getD_eq _ _ (by omega)]
  exact this _ (List.getElem_mem _)

theorem cw_mem (s : Nat) (hs : s < 257) : (s, cw s) ∈ fixLit ∧ cw s ≠ [] := by
  obtain ⟨c, h1, h2, h3⟩ := lookup_canonical fixedLitLens s (by rw [fixedLitLens_length]; omega)
    (fixedLitLens_ne_zero s (by omega))
  have : cw s = c := by unfold cw fixLit; rw [h1]; rfl
  rw [this]; exact ⟨h2, h3⟩

theorem fixLit_eq : fixLit = canonical fixedLitLens := rfl
theorem fixDist_eq : fixDist = canonical (fixedDistLens ++ [5, 5]) := rfl
attribute [irreducible] cw fixLit fixDist

theorem decodeSym_cw (s : Nat) (hs : s < 257) (r : Bits) : decodeSym fixLit (cw s ++ r) = .sym s r := by
  unfold decodeSym
  rw [decodeWith_encode fixLit fixLit_prefixFree s (cw s) (cw_mem s hs).1 (cw_mem s hs).2 r]

end Fastgo.Spec
