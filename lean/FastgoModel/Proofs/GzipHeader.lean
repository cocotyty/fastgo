import FastgoModel.Container.Gzip
import FastgoModel.Container.Members
/-
  parseHeader (emitHeader h) = h : what gzip.Writer writes, gzip.Reader reads back (C06); a whole member is read back by
  `readOneMember` over an inflater that is `Exact` on its body.
-/
namespace Fastgo.Container
open Fastgo.Spec

theorem flagsOf_bits (h : GzHeader) :
    flagsOf h < 32 ∧ ¬ flagsOf h / 2 % 2 = 1 ∧ (flagsOf h / 4 % 2 = 1 ↔ h.extra.isSome = true) ∧
    (flagsOf h / 8 % 2 = 1 ↔ h.name ≠ []) ∧ (flagsOf h / 16 % 2 = 1 ↔ h.comment ≠ []) := by
  unfold flagsOf
  split <;> split <;> split <;> simp [*]

theorem optExtra_emit (e : Option (List UInt8)) (hl : ∀ x, e = some x → x.length ≤ 65535) (rest : List UInt8) :
    optExtra e.isSome (extraBytes e ++ rest) = .ok e rest := by
  cases e with
  | none => rfl
  | some x =>
    have h2 : x.length < 256 ^ 2 := Nat.lt_succ_of_le (hl x rfl)
    simp only [optExtra, extraBytes, Option.isSome_some, ↓reduceIte, List.append_assoc,
      takeN_append_eq (le_length _ 2), unle_le _ 2 h2, takeN_append_eq rfl]

theorem optStr_emit (s : List UInt8) (h0 : (0 : UInt8) ∉ s) (hl : s.length ≤ 511) (rest : List UInt8) :
    optStr (decide (s ≠ [])) (strPart s ++ rest) = .ok s rest := by
  unfold strPart optStr
  by_cases hs : s = []
  · simp [hs]
  · simp [hs, readCStr_spec s rest [] 512 h0 (Nat.lt_succ_of_le hl)]

theorem gzip_header_roundtrip (h : GzHeader) (hwf : h.WF) (level : Int) (rest : List UInt8) :
    parseHeader (emitHeader h level ++ rest) = .ok h rest := by
  obtain ⟨hE, hN0, hNl, hC0, hCl, hM⟩ := hwf
  obtain ⟨hlt, f1, f2, f3, f4⟩ := flagsOf_bits h
  -- the four MTIME bytes of `fixedPart` are `le h.mtime 4` written out
  have hm : unle [_, _, _, _] = h.mtime := unle_le h.mtime 4 hM
  unfold parseHeader emitHeader
  rw [List.append_assoc, takeN_append_eq (show (fixedPart h level).length = 10 from rfl)]
  simp only [fixedPart, ne_eq, not_true_eq_false, or_self, ↓reduceIte,
    UInt8.toNat_ofNat_of_lt' (Nat.lt_trans hlt (by decide : 32 < UInt8.size)), f1, f2, f3, f4, Bool.decide_eq_true,
    extraPart, List.append_assoc, optExtra_emit _ hE, optStr_emit _ hN0 hNl, optStr_emit _ hC0 hCl, hm]

theorem trailerOK_emit (payload : List UInt8) : trailerOK (emitTrailer payload) payload = true := by
  have h1 : (crc32 payload).toNat < 256 ^ 4 := (crc32 payload).toNat_lt
  have h2 : payload.length % 2 ^ 32 < 256 ^ 4 := Nat.mod_lt _ (by decide)
  simp [trailerOK, emitTrailer, unle_le _ _ h1, unle_le _ _ h2]

theorem readOneMember_member (I : Inflater) (h : GzHeader) (hwf : h.WF) (level : Int) (body payload rest : List UInt8)
    (hI : I.Exact body payload) :
    readOneMember I (gzMember h level body payload ++ rest) = some (h, payload, rest) := by
  unfold readOneMember gzMember
  rw [List.append_assoc, gzip_header_roundtrip h hwf level]
  simp only [List.append_assoc, hI _, takeN_append_eq (show (emitTrailer payload).length = 8 by simp [emitTrailer]),
    trailerOK_emit, if_true]

end Fastgo.Container
