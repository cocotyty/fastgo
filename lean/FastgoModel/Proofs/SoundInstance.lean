import FastgoModel.Proofs.WriterStream
import FastgoModel.Proofs.FixedCode
/-
  The leaf contract `Sound` is satisfiable: `fixLeaves` (every byte a literal token, every block a fixed-Huffman block of
  literals) meets it (`fixSound`); the block it emits is decoded by the specification inflater (`fixBlock_isBlock`).
-/
namespace Fastgo.Writer
open Fastgo.Spec

def litBits (xs : List UInt8) : Bits := xs.flatMap fun b => cw b.toNat

section
variable {lit dist : List (Nat × Bits)} {bs r : Bits} {s : Nat}

/- `rw [bodyStep]`, not `unfold bodyStep`: when the goal holds a closed codeword such as `cw 256`, the kernel checks the
   proof that `unfold` builds by evaluating the whole fixed code. -/
theorem bodyStep_lit (h : decodeSym lit bs = .sym s r) (hs : s < 256) (out : Array UInt8) (st : Stats) :
    bodyStep lit dist bs out st = .cont (out.push (UInt8.ofNat s)) r { st with lits := st.lits + 1 } := by
  rw [bodyStep, h]
  simp only [hs, if_true]

theorem bodyStep_eob (h : decodeSym lit bs = .sym 256 r) (out : Array UInt8) (st : Stats) :
    bodyStep lit dist bs out st = .eob out r st := by
  rw [bodyStep, h]
  rfl

end

/-- a block body of literals only, under any code `enc` that the table `lit` decodes -/
theorem decodeBody_lits (lit dist : List (Nat × Bits)) (enc : Nat → Bits)
    (henc : ∀ s, s < 257 → ∀ r, decodeSym lit (enc s ++ r) = .sym s r)
    (xs : List UInt8) (t : Bits) (out : Array UInt8) (st : Stats) (fuel : Nat) (hf : xs.length < fuel) :
    ∃ st', decodeBody lit dist fuel (xs.flatMap (fun b => enc b.toNat) ++ (enc 256 ++ t)) out st = .eob (out ++ xs.toArray) t st' := by
  induction xs generalizing out st fuel with
  | nil =>
    cases fuel with
    | zero => cases hf
    | succ f =>
      refine ⟨st, ?_⟩
      rw [List.flatMap_nil, List.nil_append, decodeBody, bodyStep_eob (henc 256 (by omega) t)]
      simp
  | cons x xs ih =>
    cases fuel with
    | zero => cases hf
    | succ f =>
      obtain ⟨st', h⟩ := ih (out.push x) { st with lits := st.lits + 1 } f (by simp at hf; omega)
      refine ⟨st', ?_⟩
      have hx : x.toNat < 256 := x.toNat_lt
      rw [List.flatMap_cons, List.append_assoc, decodeBody, bodyStep_lit (henc x.toNat (by omega) _) hx, UInt8.ofNat_toNat]
      simp only
      rw [h]
      simp

theorem litBits_length_ge (xs : List UInt8) : xs.length ≤ (litBits xs).length := by
  induction xs with
  | nil => simp [litBits]
  | cons x xs ih =>
    have hx : x.toNat < 256 := x.toNat_lt
    have := List.length_pos_iff.mpr (cw_mem x.toNat (by omega)).2
    simp only [litBits, List.flatMap_cons, List.length_append, List.length_cons] at ih ⊢
    omega

/-- one fixed-Huffman block holding the literals `xs` -/
def fixBlockBits (final : Bool) (xs : List UInt8) : Bits := [final, true, false] ++ (litBits xs ++ cw 256)

theorem fixBlock_isBlock (mode : Mode) (pos : Nat) (final : Bool) (h : Array UInt8) (xs : List UInt8) :
    IsBlock mode pos (fixBlockBits final xs) final h xs := by
  intro t st
  obtain ⟨st', hd⟩ : ∃ st', decodeBody fixLit fixDist _ (litBits xs ++ (cw 256 ++ t)) h _ = .eob (h ++ xs.toArray) t st' :=
    decodeBody_lits fixLit fixDist cw decodeSym_cw xs t h { st with blocks := st.blocks + 1 }
      ((litBits xs ++ (cw 256 ++ t)).length + 1) (by have := litBits_length_ge xs; simp only [List.length_append]; omega)
  refine ⟨{ st' with fixed := st'.fixed + 1 }, ?_⟩
  have e : fixBlockBits final xs ++ t = [final] ++ ([true, false] ++ (litBits xs ++ (cw 256 ++ t))) := by
    simp [fixBlockBits]
  simp only [inflateBlock, e, takeField_append 1 [final] _ rfl, takeField_append 2 [true, false] _ rfl]
  rw [← fixLit_eq, ← fixDist_eq, hd]
  cases final <;> simp [bitsToNat]

/-- A complete, sound instance of the leaves: every byte becomes a literal token (the last 8 bytes are held back
    until a flush, like the real match finder's look-ahead), every block is a fixed-Huffman block. -/
def fixLeaves : DynLeaves Unit UInt8 where
  mfInit := ()
  generate := fun flush buf _ idx _ toks =>
    let stop := if flush then buf.length else buf.length - 8
    if idx < stop then (stop, toks ++ (buf.drop idx).take (stop - idx), ()) else (idx, toks, ())
  eob := 0
  encode := fun _ toksEob final carry =>
    let bits := carry ++ fixBlockBits final toksEob.dropLast
    if final then ([padToBytes bits], [])
    else ([packBytes (bits.length / 8) (bits.take (8 * (bits.length / 8)))], bits.drop (8 * (bits.length / 8)))
  afterBlock := fun _ => ()
  mfReset := fun _ => ()

def fixSound (mode : Mode) : Sound fixLeaves mode where
  resolve := fun _ toks => toks
  resolve_nil := fun _ => rfl
  resolve_app := fun _ _ _ => rfl
  gen := by
    intro flush buf processed idx mf toks hist hidx _ _
    show idx ≤ (if idx < (if flush then buf.length else buf.length - 8) then _ else _ : Nat × List UInt8 × Unit).1 ∧ _
    by_cases h : idx < (if flush then buf.length else buf.length - 8)
    · simp only [fixLeaves, h, if_true]
      refine ⟨by omega, by split <;> omega, (fun hf => Or.inl (by simp [hf])), _, rfl, rfl⟩
    · simp only [fixLeaves, h, if_false]
      refine ⟨Nat.le_refl _, hidx, fun hf => Or.inl ?_, [], by simp, by simp⟩
      rw [hf] at h; simp at h; omega
  enc := by
    intro mf toks final carry h pos
    refine ⟨fixBlockBits final toks, fixBlock_isBlock mode pos final h.toArray toks, ?_, ?_⟩
    · intro hf
      subst hf
      simp only [fixLeaves, List.dropLast_concat, Bool.false_eq_true, if_false, List.flatten_cons, List.flatten_nil, List.append_nil]
      rw [bytesToBits_packBytes _ _ (by rw [List.length_take]; omega), List.take_append_drop]
    · intro hf
      subst hf
      simp only [fixLeaves, List.dropLast_concat, if_true, List.flatten_cons, List.flatten_nil, List.append_nil]
      exact ⟨trivial, bytesToBits_padToBytes _⟩

end Fastgo.Writer
