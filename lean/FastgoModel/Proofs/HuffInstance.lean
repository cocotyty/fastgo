import FastgoModel.Proofs.HuffStream
import FastgoModel.Proofs.SoundInstance
/-
  A complete sound instance of the Huffman-only leaf (fixed-Huffman literal blocks).
-/
namespace Fastgo.Writer
open Fastgo.Spec

def fixHuff : HuffLeaf Unit where
  init := ()
  encode := fun _ buf final carry =>
    let bits := carry ++ fixBlockBits final buf
    if final then ([padToBytes bits], [], ())
    else ([packBytes (bits.length / 8) (bits.take (8 * (bits.length / 8)))], bits.drop (8 * (bits.length / 8)), ())

theorem fixHSound (mode : Mode) : HSound fixHuff mode where
  enc := by
    intro ls buf final carry h pos _
    refine ⟨fixBlockBits final buf, fixBlock_isBlock mode pos final h.toArray buf, ?_, ?_⟩
    · intro hf
      subst hf
      simp only [fixHuff, Bool.false_eq_true, if_false, List.flatten_cons, List.flatten_nil, List.append_nil]
      rw [bytesToBits_packBytes _ _ (by rw [List.length_take]; omega), List.take_append_drop]
    · intro hf
      subst hf
      simp only [fixHuff, if_true, List.flatten_cons, List.flatten_nil, List.append_nil]
      exact ⟨trivial, bytesToBits_padToBytes _⟩

end Fastgo.Writer
