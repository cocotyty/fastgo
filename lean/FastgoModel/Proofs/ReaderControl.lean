import FastgoModel.Proofs.ReaderSteps
/-
  The bookkeeping invariant of the Reader control model and its preservation by step() and Read:
  bytes are handed to the decoder in stream order, each exactly once; what has been discarded from the
  bufio.Reader plus the whole bytes still in the bit buffer is exactly what the decoder has taken.
-/
namespace Fastgo.Reader
variable {δ : Type}

/-- The bookkeeping invariant of the Reader over a source whose complete byte stream is `S`. -/
structure Inv (S : List UInt8) (r : RState δ) : Prop where
  total    : r.gone ++ r.bio.stream = S
  goneLen  : r.gone.length = r.bio.taken
  fedPre   : r.fed = (r.gone ++ r.bio.buf).take r.fed.length
  fedGe    : r.bio.taken ≤ r.fed.length
  bits     : r.bitsLen / 8 ≤ r.fed.length - r.bio.taken
  acct     : match r.input with
             | some n => n ≤ r.peekSize ∧ r.peekSize ≤ r.bio.buf.length ∧ r.bio.taken + (r.peekSize - n) = r.fed.length
             | none => r.bio.taken + r.bitsLen / 8 = r.fed.length ∧ r.bitsLen / 8 ≤ r.bio.buf.length ∧ r.peekSize = 0
  finNone  : r.finished = true → r.input = none
  noneEnd  : True

/-- the part of the invariant that also holds in the intermediate states of step() -/
structure Pre (S : List UInt8) (r : RState δ) : Prop where
  total    : r.gone ++ r.bio.stream = S
  goneLen  : r.gone.length = r.bio.taken
  fedPre   : r.fed = (r.gone ++ r.bio.buf).take r.fed.length
  fedGe    : r.bio.taken ≤ r.fed.length
  bits     : r.bitsLen / 8 ≤ r.fed.length - r.bio.taken
  acct     : match r.input with
             | some n => n ≤ r.peekSize ∧ r.peekSize ≤ r.bio.buf.length ∧ r.bio.taken + (r.peekSize - n) = r.fed.length
             | none => r.bio.taken + r.bitsLen / 8 = r.fed.length ∧ r.bitsLen / 8 ≤ r.bio.buf.length ∧ r.peekSize = 0

theorem Inv.pre {S : List UInt8} {r : RState δ} (h : Inv S r) : Pre S r :=
  ⟨h.total, h.goneLen, h.fedPre, h.fedGe, h.bits, h.acct⟩

theorem Pre.inv {S : List UInt8} {r : RState δ} (h : Pre S r) (hf : r.finished = true → r.input = none) : Inv S r :=
  ⟨h.total, h.goneLen, h.fedPre, h.fedGe, h.bits, h.acct, hf, trivial⟩

theorem Pre.acct_none {S : List UInt8} {r : RState δ} (h : Pre S r) (hin : r.input = none) :
    r.bio.taken + r.bitsLen / 8 = r.fed.length ∧ r.bitsLen / 8 ≤ r.bio.buf.length ∧ r.peekSize = 0 := by
  have := h.acct
  rwa [hin] at this

/-- The accounting clause read for both cases of `input` at once: what has been fed is discarded or still buffered,
    and the next Discard leaves exactly the whole bytes of the bit buffer fed and not yet discarded. -/
theorem Pre.counts {S : List UInt8} {r : RState δ} (h : Pre S r) :
    r.fed.length ≤ r.bio.taken + r.bio.buf.length ∧
    r.bio.taken + (r.peekSize - r.inputLen - r.bitsLen / 8) + r.bitsLen / 8 = r.fed.length := by
  have hacct := h.acct
  have := h.bits
  unfold RState.inputLen
  cases hin : r.input <;> rw [hin] at hacct <;> simp only [Option.getD_some, Option.getD_none] <;> omega

theorem inv_init (D : Decoder δ) (bio : Bufio) : Inv (bio.stream) (RState.init D bio) := by
  refine ⟨rfl, rfl, rfl, Nat.le_refl _, ?_, ?_, nofun, trivial⟩ <;> simp [RState.init]

theorem Pre.grew {S : List UInt8} {r : RState δ} (h : Pre S r) (hin : r.input = none) {b : Bufio}
    (hg : r.bio.Grew b) : Pre S { r with bio := b } := by
  obtain ⟨x, hx⟩ := hg.buf
  have hn := h.acct_none hin
  have hfedle : r.fed.length ≤ (r.gone ++ r.bio.buf).length := by
    rw [List.length_append, h.goneLen]; exact h.counts.1
  refine ⟨?_, ?_, ?_, ?_, ?_, ?_⟩ <;> dsimp only
  · rw [hg.stream]; exact h.total
  · rw [hg.taken]; exact h.goneLen
  · rw [hx, ← List.append_assoc, List.take_append_of_le_length hfedle]; exact h.fedPre
  · rw [hg.taken]; exact h.fedGe
  · rw [hg.taken]; exact h.bits
  · rw [hin, hg.taken, hx, List.length_append]; exact ⟨hn.1, by omega, hn.2.2⟩

/-- with no input slice held and no more buffered than the bit buffer holds, everything that has come out of the
    source has been fed -/
theorem Pre.all_fed {S : List UInt8} {r : RState δ} (h : Pre S r) (hin : r.input = none)
    (hl : r.bio.buf.length ≤ r.bitsLen / 8) : r.fed = r.gone ++ r.bio.buf := by
  have hn := h.acct_none hin
  have hpre := h.fedPre
  rwa [show r.fed.length = (r.gone ++ r.bio.buf).length by rw [List.length_append, h.goneLen]; omega,
    List.take_length] at hpre

/-- input acquisition, by outcome, under the invariant: it blocks only when every byte of the stream has been fed;
    a source error comes only after everything delivered before it was fed; otherwise the invariant holds again -/
theorem acquire_inv (S : List UInt8) (r : RState δ) (hi : Inv S r) (hnf : r.finished = false) :
    match acquire r with
    | .blocked => r.input = none ∧ r.ended = false ∧ r.fed = S
    | .failed r0 e => Inv S r0 ∧ r0.input = none ∧ r0.fed.length = r0.gone.length + r0.bio.buf.length ∧
        ∃ id, e = .src (.fail id)
    | .ready r1 => Inv S r1 ∧ r1.finished = false ∧ (r1.input = none → r1.ended = true) := by
  have hs := acquire_spec r
  generalize acquire r = a at hs ⊢
  cases a
  · obtain ⟨hin, hne, b, hg, hsrc, hl⟩ := hs
    have hb := hi.pre.grew hin hg
    refine ⟨hin, hne, (hb.all_fed hin hl).trans ?_⟩
    rw [← hb.total]
    simp [Bufio.stream, hsrc]
  · obtain ⟨hin, b, id, hg, hl, rfl, rfl⟩ := hs
    have hb := hi.pre.grew hin hg
    exact ⟨hb.inv hi.finNone, hin, by rw [hb.all_fed hin hl, List.length_append], id, rfl⟩
  · obtain ⟨rfl, hne⟩ | ⟨hin, b, eof, hg, rfl⟩ := hs
    · exact ⟨hi, hnf, hne⟩
    · have hb := hi.pre.grew hin hg
      have hn := hb.acct_none hin
      refine ⟨Pre.inv ⟨hb.total, hb.goneLen, hb.fedPre, hb.fedGe, hb.bits, ?_⟩ fun h => absurd (hnf ▸ h) nofun, hnf, nofun⟩
      dsimp only at hn ⊢; omega

/-- the unconsumed window is what follows the fed bytes in the stream -/
theorem inBytes_spec (S : List UInt8) (r : RState δ) (hi : Inv S r) :
    r.inBytes = ((r.gone ++ r.bio.buf).drop r.fed.length).take r.inputLen ∧ r.inBytes.length = r.inputLen := by
  have hacct := hi.acct
  have hgl := hi.goneLen
  unfold RState.inBytes RState.inputLen
  cases hin : r.input with
  | none => simp
  | some n =>
    rw [hin] at hacct
    dsimp only at hacct ⊢
    rw [List.drop_append, List.drop_eq_nil_of_le (as := r.gone) (by omega), List.nil_append, List.length_take,
      List.length_drop]
    refine ⟨?_, by simp; omega⟩
    congr 2; omega

/-- the decoder takes `k` more bytes of the window and leaves `bl` bits in the bit buffer -/
theorem pre_fed (S : List UInt8) (r : RState δ) (hi : Inv S r) (k bl : Nat) (hk : k ≤ r.inBytes.length)
    (hb : bl ≤ r.bitsLen + 8 * k) (hnone : r.input = none → bl = r.bitsLen) :
    Pre S { r with bitsLen := bl, input := r.input.map (· - k), fed := r.fed ++ r.inBytes.take k } := by
  obtain ⟨hib, hil⟩ := inBytes_spec S r hi
  have hacct := hi.acct
  have hbits := hi.bits
  have hge := hi.fedGe
  have htl : (r.inBytes.take k).length = k := by rw [List.length_take]; omega
  rw [hil] at hk
  refine ⟨hi.total, hi.goneLen, ?_, ?_, ?_, ?_⟩ <;> dsimp only <;> rw [List.length_append, htl]
  · -- (gone ++ buf).take (|fed| + k) = (gone ++ buf).take |fed| ++ ((gone ++ buf).drop |fed|).take k
    rw [List.take_add, ← hi.fedPre, hib, List.take_take, Nat.min_eq_left hk]
  · omega
  · omega
  · unfold RState.inputLen at hk
    cases hin : r.input with
    | none =>
      rw [hin] at hacct hk
      have := hnone hin
      simp at hk
      simp only [Option.map_none]; omega
    | some n =>
      rw [hin] at hacct hk
      simp only [Option.map_some, Option.getD_some] at hk ⊢; omega

theorem decoded_pre (D : Decoder δ) (hs : D.Sane) (S : List UInt8) (r1 : RState δ) (hi : Inv S r1)
    (hne : r1.input = none → r1.ended = true) : Pre S (decoded D r1) := by
  obtain ⟨hk, hb, he⟩ := hs r1.dec r1.inBytes r1.bitsLen r1.ended
  have h := pre_fed S r1 hi _ _ hk hb fun hin => (he (hne hin)).2
  exact ⟨h.total, h.goneLen, h.fedPre, h.fedGe, h.bits, h.acct⟩

/-- Discard of what the decoder has consumed, with the window dropped, or kept empty at the bytes still held in
    the bit buffer -/
theorem discard_inv (S : List UInt8) (r : RState δ) (hp : Pre S r) (i : Option Nat) (p : Nat)
    (h : i = none ∧ p = 0 ∨ i = some 0 ∧ p = r.bitsLen / 8 ∧ r.finished = false) :
    Inv S { r.discardConsumed with input := i, peekSize := p } := by
  have hgl := hp.goneLen
  obtain ⟨hle, hd⟩ := hp.counts
  unfold RState.discardConsumed Bufio.discard
  generalize r.peekSize - r.inputLen - r.bitsLen / 8 = d at hd
  refine ⟨?_, ?_, ?_, ?_, ?_, ?_, ?_, trivial⟩ <;> dsimp only
  · rw [← hp.total, Bufio.stream, Bufio.stream, List.append_assoc, ← List.append_assoc (List.take _ _),
      List.take_append_drop]
  · rw [List.length_append, List.length_take]; omega
  · rw [List.append_assoc, List.take_append_drop]; exact hp.fedPre
  · omega
  · omega
  · rw [List.length_drop]
    obtain ⟨rfl, rfl⟩ | ⟨rfl, rfl, _⟩ := h <;> dsimp only <;> omega
  · obtain ⟨rfl, _⟩ | ⟨_, _, hnf⟩ := h
    · exact fun _ => rfl
    · exact fun hf => absurd (hnf ▸ hf) nofun

theorem afterDecode_inv (D : Decoder δ) (hs : D.Sane) (S : List UInt8) (r1 : RState δ) (hi : Inv S r1)
    (hne : r1.input = none → r1.ended = true) : Inv S (afterDecode D r1).1 := by
  have hp := decoded_pre D hs S r1 hi hne
  obtain h | ⟨hnf, h | h⟩ := (afterDecode_spec D r1).2 <;> rw [h]
  · exact discard_inv S _ hp _ _ (.inl ⟨rfl, rfl⟩)
  · exact hp.inv fun hf => absurd (hnf ▸ hf) nofun
  · exact discard_inv S _ hp _ _ (.inr ⟨rfl, rfl, hnf⟩)

theorem step_inv (D : Decoder δ) (hs : D.Sane) (S : List UInt8) (r : RState δ) (hi : Inv S r) {r1 : RState δ}
    {res : StepRes} (hst : step D r = (r1, res)) : Inv S r1 := by
  obtain ⟨_, h, _⟩ | ⟨hnf, h⟩ := step_cases D r r1 res hst
  · rw [h]; exact hi
  · have hai := acquire_inv S r hi hnf
    obtain ⟨_, h, _⟩ | ⟨e, ha, _⟩ | ⟨r1, ha, h, _⟩ := h
    · rw [h]; exact hi
    · rw [ha] at hai; exact hai.1
    · rw [ha] at hai; rw [h]; exact afterDecode_inv D hs S r1 hai.1 hai.2.2

theorem inv_pending_err (S : List UInt8) (r : RState δ) (hi : Inv S r) (p : List UInt8) (e : Option RE) :
    Inv S { r with pending := p, err := e } :=
  ⟨hi.total, hi.goneLen, hi.fedPre, hi.fedGe, hi.bits, hi.acct, hi.finNone, trivial⟩

theorem read_inv (D : Decoder δ) (hs : D.Sane) (S : List UInt8) (fuel : Nat) (r : RState δ) (want : Nat)
    (hi : Inv S r) : Inv S (read D fuel r want).1 :=
  read_rule D (fun _ => Inv S) (fun _ r _ h => inv_pending_err S r h _ _)
    (fun _ r r1 _ h _ _ hst => inv_pending_err S r1 (step_inv D hs S r h hst) _ _) fuel r want [] hi

theorem readMany_inv (D : Decoder δ) (hs : D.Sane) (S : List UInt8) (fuel : Nat) (r : RState δ) (ws : List Nat)
    (hi : Inv S r) : Inv S (readMany D fuel r ws).1 :=
  readMany_rule D fuel (fun _ => Inv S) (fun _ r w => read_inv D hs S fuel r w) r ws [] hi

theorem reachable_inv (D : Decoder δ) (hs : D.Sane) (bio : Bufio) (fuel : Nat) (ws : List Nat) :
    Inv bio.stream (readMany D fuel (RState.init D bio) ws).1 :=
  readMany_inv D hs _ fuel _ ws (inv_init D bio)

end Fastgo.Reader
