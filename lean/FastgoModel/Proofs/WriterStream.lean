import FastgoModel.Proofs.BitsBytes
import FastgoModel.Proofs.WriterAppend
/-
  The stream the dynamic compressor emits, under the leaf contract `Sound`: the invariant `DInv` ("`D` is everything written
  since the stream began": the destination holds a chain of complete non-final blocks for a prefix of `D`, the pending
  tokens resolve to the next part, the buffer holds the rest) is kept by every step of Write and Flush; Flush leaves a
  chain for all of `D` (`flush_tracks`), Close completes the stream (`close_tracks`, `ClosedStream`); `Tracks` / `run_tracks`
  carry it over histories of operations. What is said about the destination alone is `Emitted`, shared with the
  Huffman-only compressor.
-/
namespace Fastgo.Writer
open Fastgo.Spec
variable {MF Tok : Type} {base : Nat} {H : List UInt8}

/-- leaf contracts of the dynamic compressor, relative to the specification inflater -/
structure Sound (L : DynLeaves MF Tok) (mode : Mode) where
  /-- the bytes a token list stands for, given everything decoded before it -/
  resolve : List UInt8 → List Tok → List UInt8
  resolve_nil : ∀ h, resolve h [] = []
  resolve_app : ∀ h a b, resolve h (a ++ b) = resolve h a ++ resolve (h ++ resolve h a) b
  /-- MatchFinder.Sound: the new tokens spell out exactly the bytes consumed; a flush call consumes everything
      unless it stops early (token buffer full), and then it has made progress -/
  gen : ∀ (flush : Bool) (buf : List UInt8) (processed idx : Nat) (mf : MF) (toks : List Tok) (hist : List UInt8),
    idx ≤ buf.length → hist.length = processed → hist.drop (processed - idx) = buf.take idx →
    idx ≤ (L.generate flush buf processed idx mf toks).1 ∧
    (L.generate flush buf processed idx mf toks).1 ≤ buf.length ∧
    (flush = true → (L.generate flush buf processed idx mf toks).1 = buf.length ∨ idx < (L.generate flush buf processed idx mf toks).1) ∧
    ∃ new, (L.generate flush buf processed idx mf toks).2.1 = toks ++ new ∧
      resolve hist new = (buf.drop idx).take ((L.generate flush buf processed idx mf toks).1 - idx)
  /-- the block encoder: the bits handed out plus the new carry are the old carry plus one block (plus the
      padding to a byte boundary after a final block) that decodes to the tokens' bytes -/
  enc : ∀ (mf : MF) (toks : List Tok) (final : Bool) (carry : Bits) (h : List UInt8) (pos : Nat),
    ∃ B, IsBlock mode pos B final h.toArray (resolve h toks) ∧
      (final = false → bytesToBits (L.encode mf (toks ++ [L.eob]) final carry).1.flatten ++ (L.encode mf (toks ++ [L.eob]) final carry).2 = carry ++ B) ∧
      (final = true → (L.encode mf (toks ++ [L.eob]) final carry).2 = [] ∧
        bytesToBits (L.encode mf (toks ++ [L.eob]) final carry).1.flatten = carry ++ B ++ List.replicate (padLen (carry ++ B).length) false)

def Dst.Healthy (d : Dst) : Prop := ∀ k, d.fail k = false

/-- a healthy destination accepts a chunk; stated as an equation so that a `match` on the result reduces after `rw` -/
theorem write_ok (d : Dst) (hh : d.Healthy) (c : List UInt8) :
    ∃ d', d.write c = (d', true) ∧ d'.Healthy ∧ d'.bytes = d.bytes ++ c := by
  refine ⟨{ d with calls := d.calls + 1, got := c :: d.got }, ?_, hh, by simp [Dst.bytes]⟩
  unfold Dst.write
  simp only [hh d.calls, Bool.false_eq_true, if_false]

theorem writeAll_ok (d : Dst) (hh : d.Healthy) (cs : List (List UInt8)) :
    ∃ d', d.writeAll cs = (d', true) ∧ d'.Healthy ∧ d'.bytes = d.bytes ++ cs.flatten := by
  induction cs generalizing d with
  | nil => exact ⟨d, rfl, hh, by simp⟩
  | cons c cs ih =>
    obtain ⟨d1, h1, hh1, hb1⟩ := write_ok d hh c
    obtain ⟨d2, h2, hh2, hb2⟩ := ih d1 hh1
    refine ⟨d2, ?_, hh2, by rw [hb2, hb1]; simp⟩
    rw [Dst.writeAll, h1]; exact h2

theorem bytes_nil {d : Dst} (hd : d.got = []) : d.bytes = [] := by simp [Dst.bytes, hd]

/-- the part of the destination that belongs to this DEFLATE stream: everything after the first `base` bytes
    (a gzip/zlib header written by the wrapper; `base = 0` for a bare flate Writer) -/
def body (base : Nat) (d : Dst) : List UInt8 := d.bytes.drop base

theorem body_zero (d : Dst) : body 0 d = d.bytes := rfl

theorem body_append (base : Nat) (d d1 : Dst) (c : List UInt8) (hb : base ≤ d.bytes.length) (h : d1.bytes = d.bytes ++ c) :
    body base d1 = body base d ++ c ∧ base ≤ d1.bytes.length ∧ d1.bytes.take base = d.bytes.take base := by
  unfold body
  rw [h, List.drop_append_of_le_length hb, List.take_append_of_le_length hb]
  exact ⟨rfl, by simp only [List.length_append]; omega, rfl⟩

/-- all bits produced so far: what the destination holds plus the bit carry -/
def emitted (w : WState MF Tok) : Bits := bytesToBits w.dst.bytes ++ w.dyn.carry

/-- what a closed stream looks like: non-final blocks, one final block, zero padding to the byte boundary -/
def ClosedStream (mode : Mode) (D : List UInt8) (bytes : List UInt8) : Prop :=
  ∃ (n q : Nat) (E B rest : Bits), Chain mode n 0 E #[] (D.take q) ∧ IsBlock mode E.length B true (D.take q).toArray (D.drop q) ∧
    bytesToBits bytes = E ++ (B ++ rest) ∧ rest.length < 8 ∧ ∀ b ∈ rest, b = false

/-! ### What both compressors maintain at the destination

`Emitted`: the destination is healthy, still begins with the wrapper's `base` bytes `H`, and what follows them,
together with the bit carry, is `n` complete non-final blocks for `P`. A compressor's own invariant (`DInv`, `HInv`)
adds how `P` and its buffer make up the data written; every step that reaches the destination is one of the lemmas
below: a non-final block (`snoc`), Flush's empty stored block (`snoc_empty`), a final block (`closed`; `closed_empty`
when Close finds nothing left to encode). -/

structure Emitted (mode : Mode) (base : Nat) (H : List UInt8) (d : Dst) (carry : Bits) (n : Nat) (P : List UInt8) : Prop where
  healthy : d.Healthy
  baseLe  : base ≤ d.bytes.length
  pre     : d.bytes.take base = H
  chain   : Chain mode n 0 (bytesToBits (body base d) ++ carry) #[] P

theorem Emitted.fresh (mode : Mode) (d : Dst) (hh : d.Healthy) : Emitted mode d.bytes.length d.bytes d [] 0 [] :=
  ⟨hh, Nat.le_refl _, List.take_length, by simp [body, bytesToBits]; exact Chain.nil 0 #[]⟩

theorem carry_pos_mod (bs : List UInt8) (carry : Bits) : (bytesToBits bs ++ carry).length % 8 = carry.length % 8 := by
  rw [List.length_append, bytesToBits_length]; omega

section
variable {mode : Mode} {d d' : Dst} {carry carry' B rest : Bits} {n q : Nat} {P D x c : List UInt8}

theorem Emitted.snoc (he : Emitted mode base H d carry n P) (hh : d'.Healthy) (hb : d'.bytes = d.bytes ++ c)
    (hbits : bytesToBits c ++ carry' = carry ++ B)
    (hB : IsBlock mode (bytesToBits (body base d) ++ carry).length B false P.toArray x) :
    Emitted mode base H d' carry' (n + 1) (P ++ x) := by
  obtain ⟨b1, b2, b3⟩ := body_append base d d' c he.baseLe hb
  refine ⟨hh, b2, b3.trans he.pre, ?_⟩
  rw [b1, bytesToBits_append, List.append_assoc, hbits, ← List.append_assoc]
  exact he.chain.snoc B x (by simpa using hB)

theorem Emitted.snoc_empty (he : Emitted mode base H d carry n P) (hh : d'.Healthy)
    (hb : d'.bytes = d.bytes ++ emptyStored carry false) : Emitted mode base H d' [] (n + 1) P := by
  have := he.snoc (carry' := []) hh hb
    (by rw [List.append_nil]; exact emptyStored_bits carry false _ (carry_pos_mod _ _)) (storedEmpty_isBlock mode _ false _)
  rwa [List.append_nil] at this

theorem Emitted.closed (he : Emitted mode base H d carry n (D.take q)) (hh : d'.Healthy) (hb : d'.bytes = d.bytes ++ c)
    (hbits : bytesToBits c = carry ++ B ++ rest)
    (hB : IsBlock mode (bytesToBits (body base d) ++ carry).length B true (D.take q).toArray (D.drop q))
    (hl : rest.length < 8) (hz : ∀ b ∈ rest, b = false) :
    ClosedStream mode D (body base d') ∧ d'.Healthy ∧ base ≤ d'.bytes.length ∧ d'.bytes.take base = H := by
  obtain ⟨b1, b2, b3⟩ := body_append base d d' c he.baseLe hb
  refine ⟨⟨n, q, _, B, rest, he.chain, hB, ?_, hl, hz⟩, hh, b2, b3.trans he.pre⟩
  rw [b1, bytesToBits_append, hbits]
  simp only [List.append_assoc]

theorem padLen_lt (n : Nat) : padLen n < 8 := by unfold padLen; omega

/-- `closed` with the padding in the form the block encoders' contract gives it -/
theorem Emitted.closed_padded (he : Emitted mode base H d carry n (D.take q)) (hh : d'.Healthy) (hb : d'.bytes = d.bytes ++ c)
    (hbits : bytesToBits c = carry ++ B ++ List.replicate (padLen (carry ++ B).length) false)
    (hB : IsBlock mode (bytesToBits (body base d) ++ carry).length B true (D.take q).toArray (D.drop q)) :
    ClosedStream mode D (body base d') ∧ d'.Healthy ∧ base ≤ d'.bytes.length ∧ d'.bytes.take base = H :=
  he.closed hh hb hbits hB (by rw [List.length_replicate]; exact padLen_lt _) fun _ hm => (List.mem_replicate.mp hm).2

theorem Emitted.closed_empty (he : Emitted mode base H d carry n (D.take q)) (hq : D.drop q = []) (hh : d'.Healthy)
    (hb : d'.bytes = d.bytes ++ emptyStored carry true) :
    ClosedStream mode D (body base d') ∧ d'.Healthy ∧ base ≤ d'.bytes.length ∧ d'.bytes.take base = H := by
  refine he.closed (rest := []) hh hb ?_ (by rw [hq]; exact storedEmpty_isBlock mode _ true _) (Nat.zero_lt_succ _)
    (fun _ hm => nomatch hm)
  rw [List.append_nil]; exact emptyStored_bits carry true _ (carry_pos_mod _ _)

end


/-- The stream invariant of the dynamic compressor: `D` is all the data written so far. -/
structure DInv (L : DynLeaves MF Tok) {mode : Mode} (S : Sound L mode) (base : Nat) (H : List UInt8) (D : List UInt8) (s : Dyn MF Tok) (d : Dst) : Prop where
  healthy : d.Healthy
  baseLe  : base ≤ d.bytes.length
  pre     : d.bytes.take base = H
  bufLe   : s.buf.length ≤ D.length
  bufEq   : s.buf = D.drop (D.length - s.buf.length)
  idxLe   : s.idx ≤ s.buf.length
  proc    : s.processed + (s.buf.length - s.idx) = D.length
  empty   : s.buf.length = 0 → D = []
  chain   : ∃ n q, q ≤ s.processed ∧ Chain mode n 0 (bytesToBits (body base d) ++ s.carry) #[] (D.take q) ∧
            S.resolve (D.take q) s.tokens = (D.take s.processed).drop q

theorem take_drop_eq (D : List UInt8) (a b : Nat) (h : b ≤ a) : (D.take a).drop b = (D.drop b).take (a - b) := by
  rw [List.drop_take]

theorem take_append_drop_take (D : List UInt8) (q p : Nat) (h : q ≤ p) : D.take q ++ (D.take p).drop q = D.take p := by
  have : D.take q = (D.take p).take q := by rw [List.take_take]; congr 1; omega
  rw [this, List.take_append_drop]


/-- the state after one match-finder call -/
def afterGen (L : DynLeaves MF Tok) (flush : Bool) (s : Dyn MF Tok) : Dyn MF Tok :=
  let g := L.generate flush s.buf s.processed s.idx s.mf s.tokens
  { s with processed := s.processed + (g.1 - s.idx), idx := g.1, tokens := g.2.1, mf := g.2.2 }

theorem afterGen_inv (L : DynLeaves MF Tok) {mode : Mode} (S : Sound L mode) (D : List UInt8) (flush : Bool)
    (s : Dyn MF Tok) (d : Dst) (hi : DInv L S base H D s d) :
    DInv L S base H D (afterGen L flush s) d ∧
    (flush = true → (afterGen L flush s).idx = (afterGen L flush s).buf.length ∨ s.idx < (afterGen L flush s).idx) ∧
    (afterGen L flush s).buf = s.buf := by
  obtain ⟨n, q, hq, hch, hres⟩ := hi.chain
  have hproc := hi.proc
  have hidx := hi.idxLe
  have hble := hi.bufLe
  have hbd : s.buf.drop s.idx = D.drop s.processed := by
    rw [hi.bufEq, List.drop_drop]; congr 1; omega
  -- the history the match finder may refer to ends with the resolved part of the buffer
  have hhist : (D.take s.processed).drop (s.processed - s.idx) = s.buf.take s.idx := by
    have e1 : s.processed - s.idx = D.length - s.buf.length := by omega
    have e2 : s.processed - (s.processed - s.idx) = s.idx := by omega
    rw [List.drop_take, e2, e1, ← hi.bufEq]
  have hlen : (D.take s.processed).length = s.processed := by rw [List.length_take]; omega
  obtain ⟨g1, g2, g3, new, g4, g5⟩ := S.gen flush s.buf s.processed s.idx s.mf s.tokens (D.take s.processed) hidx hlen hhist
  unfold afterGen
  generalize L.generate flush s.buf s.processed s.idx s.mf s.tokens = g at g1 g2 g3 g4 g5 ⊢
  refine ⟨⟨hi.healthy, hi.baseLe, hi.pre, hble, hi.bufEq, g2, by dsimp only; omega, hi.empty,
    n, q, by dsimp only; omega, hch, ?_⟩, g3, rfl⟩
  dsimp only
  rw [g4, S.resolve_app, hres, take_append_drop_take D q s.processed hq, g5, hbd, List.take_add,
    List.drop_append_of_le_length (by rw [List.length_take]; omega)]


/-- the state after a successfully written block -/
def afterEnc (L : DynLeaves MF Tok) (last : Bool) (s1 : Dyn MF Tok) : Dyn MF Tok :=
  { s1 with tokens := [], carry := (L.encode s1.mf (s1.tokens ++ [L.eob]) last s1.carry).2, mf := L.afterBlock s1.mf }

def encDst (L : DynLeaves MF Tok) (last : Bool) (s1 : Dyn MF Tok) (d : Dst) : Dst × Bool :=
  d.writeAll (L.encode s1.mf (s1.tokens ++ [L.eob]) last s1.carry).1

theorem encDst_ok (L : DynLeaves MF Tok) (last : Bool) (s1 : Dyn MF Tok) (d : Dst) (hh : d.Healthy) :
    ∃ d1, encDst L last s1 d = (d1, true) :=
  let ⟨d1, h, _⟩ := writeAll_ok d hh _
  ⟨d1, h⟩

/-- a non-final block: the chain grows by one block and covers everything processed -/
theorem afterEnc_inv (L : DynLeaves MF Tok) {mode : Mode} (S : Sound L mode) (D : List UInt8)
    (s1 : Dyn MF Tok) (d : Dst) (hi : DInv L S base H D s1 d) :
    DInv L S base H D (afterEnc L false s1) (encDst L false s1 d).1 := by
  obtain ⟨n, q, hq, hch, hres⟩ := hi.chain
  obtain ⟨B, hB, hnf, _⟩ := S.enc s1.mf s1.tokens false s1.carry (D.take q) (bytesToBits (body base d) ++ s1.carry).length
  obtain ⟨d1, hw, hh, hb⟩ := writeAll_ok d hi.healthy (L.encode s1.mf (s1.tokens ++ [L.eob]) false s1.carry).1
  have he := Emitted.snoc ⟨hi.healthy, hi.baseLe, hi.pre, hch⟩ hh hb (hnf rfl) hB
  rw [hres, take_append_drop_take D q s1.processed hq] at he
  unfold encDst
  rw [hw]
  exact ⟨hh, he.baseLe, he.pre, hi.bufLe, hi.bufEq, hi.idxLe, hi.proc, hi.empty,
    n + 1, s1.processed, Nat.le_refl _, he.chain, (S.resolve_nil _).trans List.drop_take_self.symm⟩


def failEnc (L : DynLeaves MF Tok) (last : Bool) (s1 : Dyn MF Tok) : Dyn MF Tok :=
  { s1 with tokens := s1.tokens ++ [L.eob], carry := (L.encode s1.mf (s1.tokens ++ [L.eob]) last s1.carry).2 }

/-- one round of compressBlock's `goto again` loop in terms of afterGen / afterEnc / encDst -/
theorem compressBlock_succ (L : DynLeaves MF Tok) (c : Cfg) (flush final : Bool) (fuel : Nat) (s : Dyn MF Tok) (d : Dst) :
    compressBlock L c flush final (fuel + 1) s d =
      if final ∧ s.buf.length = 0 then
        match d.write (emptyStored s.carry true) with
        | (d1, true) => ({ s with carry := [] }, d1, .ok)
        | (d1, false) => (s, d1, .failed)
      else if (afterGen L flush s).tokens.length < c.maxTok ∧ ¬ flush then (afterGen L flush s, d, .ok)
      else
        match encDst L (decide (final ∧ (afterGen L flush s).idx = (afterGen L flush s).buf.length)) (afterGen L flush s) d with
        | (d1, false) => (failEnc L (decide (final ∧ (afterGen L flush s).idx = (afterGen L flush s).buf.length)) (afterGen L flush s), d1, .failed)
        | (d1, true) =>
          if (afterGen L flush s).idx = (afterGen L flush s).buf.length then
            (afterEnc L (decide (final ∧ (afterGen L flush s).idx = (afterGen L flush s).buf.length)) (afterGen L flush s), d1, .ok)
          else compressBlock L c flush final fuel
            (afterEnc L (decide (final ∧ (afterGen L flush s).idx = (afterGen L flush s).buf.length)) (afterGen L flush s)) d1 := by
  rw [compressBlock]
  rfl

/-- dynCompressor.compressBlock (not final), healthy destination: never fails, keeps the stream invariant,
    and with `flush` consumes everything, leaves no pending token and cannot get stuck (every round of the
    `goto again` loop makes progress) -/
theorem compressBlock_nonfinal (L : DynLeaves MF Tok) {mode : Mode} (S : Sound L mode) (c : Cfg) (D : List UInt8)
    (flush : Bool) (fuel : Nat) (s : Dyn MF Tok) (d : Dst) (hi : DInv L S base H D s d) :
    (compressBlock L c flush false fuel s d).2.2 ≠ .failed ∧
    ((compressBlock L c flush false fuel s d).2.2 = .ok →
      DInv L S base H D (compressBlock L c flush false fuel s d).1 (compressBlock L c flush false fuel s d).2.1 ∧
      (flush = true → (compressBlock L c flush false fuel s d).1.idx = (compressBlock L c flush false fuel s d).1.buf.length ∧
        (compressBlock L c flush false fuel s d).1.tokens = [])) ∧
    (flush = true → s.buf.length - s.idx < fuel → (compressBlock L c flush false fuel s d).2.2 = .ok) := by
  induction fuel generalizing s d with
  | zero => simp [compressBlock]
  | succ fuel ih =>
    rw [compressBlock_succ]
    simp only [Bool.false_eq_true, false_and, if_false, decide_false]
    obtain ⟨hg, hgf, hgb⟩ := afterGen_inv L S D flush s d hi
    by_cases h1 : (afterGen L flush s).tokens.length < c.maxTok ∧ ¬ flush
    · rw [if_pos h1]
      refine ⟨by simp, fun _ => ⟨hg, fun hf => absurd hf (by simpa using h1.2)⟩, fun hf => absurd hf (by simpa using h1.2)⟩
    · rw [if_neg h1]
      obtain ⟨d1, hed⟩ := encDst_ok L false (afterGen L flush s) d hg.healthy
      have he := afterEnc_inv L S D (afterGen L flush s) d hg
      rw [hed] at he ⊢
      dsimp only at he ⊢
      by_cases h2 : (afterGen L flush s).idx = (afterGen L flush s).buf.length
      · rw [if_pos h2]
        refine ⟨by simp, fun _ => ⟨he, fun _ => ⟨h2, rfl⟩⟩, fun _ _ => rfl⟩
      · rw [if_neg h2]
        obtain ⟨i1, i2, i3⟩ := ih (afterEnc L false (afterGen L flush s)) d1 he
        refine ⟨i1, i2, fun hf hfu => i3 hf ?_⟩
        show (afterGen L flush s).buf.length - (afterGen L flush s).idx < fuel
        have := hg.idxLe
        rw [hgb] at this ⊢
        rcases hgf hf with h | h
        · exact absurd h h2
        · omega

/-- Accumulate's two moves at once: drop `off` bytes that lie behind the window from the front of the buffer, append the
    newly written bytes `x`. Something of the buffer stays (`off = 0` when there is no slide). -/
theorem DInv.slide_append {L : DynLeaves MF Tok} {mode : Mode} {S : Sound L mode} {D : List UInt8} {s : Dyn MF Tok} {d : Dst}
    (hi : DInv L S base H D s d) (off : Nat) (ho : off ≤ s.idx) (hne : off < s.buf.length ∨ off = 0) (x : List UInt8) :
    DInv L S base H (D ++ x) { s with buf := s.buf.drop off ++ x, idx := s.idx - off } d := by
  have hidx := hi.idxLe
  have hble := hi.bufLe
  have hproc := hi.proc
  obtain ⟨n, q, hq, hch, hres⟩ := hi.chain
  have hpl : s.processed ≤ D.length := by omega
  have hql : q ≤ D.length := by omega
  refine ⟨hi.healthy, hi.baseLe, hi.pre, ?_, ?_, ?_, ?_, ?_, n, q, hq,
    by rwa [List.take_append_of_le_length hql],
    by rwa [List.take_append_of_le_length hql, List.take_append_of_le_length hpl]⟩
  -- each of the five speaks of the length of the new buffer
  all_goals dsimp only; simp only [List.length_append, List.length_drop]
  · omega
  · rw [show D.length + x.length - (s.buf.length - off + x.length) = D.length - s.buf.length + off by omega,
      List.drop_append_of_le_length (by omega), ← List.drop_drop, ← hi.bufEq]
  · omega
  · omega
  · intro h
    have h0 : s.buf.length = 0 := by omega
    rw [hi.empty h0, List.eq_nil_of_length_eq_zero (show x.length = 0 by omega)]; rfl

/-- a Write loop that took `n` bytes and then `k` more of the rest took `n + k` bytes -/
theorem accepted_more (I : List UInt8 → Prop) {D data : List UInt8} {num n r : Nat} (hn : n ≤ data.length)
    (h : ∃ k, r = num + n + k ∧ k ≤ (data.drop n).length ∧ I (D ++ data.take n ++ (data.drop n).take k)) :
    ∃ k, r = num + k ∧ k ≤ data.length ∧ I (D ++ data.take k) := by
  obtain ⟨k, e2, e3, e4⟩ := h
  rw [List.length_drop] at e3
  rw [List.append_assoc, ← List.take_add] at e4
  exact ⟨n + k, by omega, by omega, e4⟩

/-- dynCompressor.Accumulate: what it reports as copied has joined the data -/
theorem accumulate_inv (L : DynLeaves MF Tok) {mode : Mode} (S : Sound L mode) (c : Cfg) (hw : 0 < c.window) (D : List UInt8) {data : List UInt8}
    {s : Dyn MF Tok} {d : Dst} (hi : DInv L S base H D s d) {s1 : Dyn MF Tok} {n : Nat} {trig : Bool}
    (h : accumulate c s data = (s1, n, trig)) : n ≤ data.length ∧ DInv L S base H (D ++ data.take n) s1 d := by
  rw [accumulate_eq] at h
  cases h
  refine ⟨Nat.min_le_right _ _, ?_⟩
  rw [← List.take_eq_take_min]
  have := hi.idxLe
  unfold fill slid
  split
  · exact hi.slide_append (s.idx - c.window) (Nat.sub_le _ _) (.inl (by omega)) _
  · exact hi.slide_append 0 (Nat.zero_le _) (.inr rfl) _

/-- Writer.Write's loop: if it reports no error, the bytes it reports as accepted have joined the data -/
theorem writeLoop_inv (L : DynLeaves MF Tok) {mode : Mode} (S : Sound L mode) (c : Cfg) (hw : 0 < c.window)
    (fuel : Nat) (D data : List UInt8) (w : WState MF Tok) (num : Nat) (hi : DInv L S base H D w.dyn w.dst)
    (he : (writeLoop L c fuel w data num).2.err = none) :
    ∃ k, (writeLoop L c fuel w data num).2.n = num + k ∧ k ≤ data.length ∧
      DInv L S base H (D ++ data.take k) (writeLoop L c fuel w data num).1.dyn (writeLoop L c fuel w data num).1.dst := by
  fun_induction writeLoop L c fuel w data num generalizing D
  case case3 s1 _ _ hcb hacc =>         -- the full buffer was compressed, but nothing could be copied
    have hc := compressBlock_nonfinal L S c _ false (fuelFor s1) s1 _ (accumulate_inv L S c hw D hi hacc).2
    rw [hcb] at hc
    exact ⟨0, rfl, Nat.zero_le _, by simpa using (hc.2.1 rfl).1⟩
  case case4 s1 _ _ _ hcb _ hacc ih =>  -- the full buffer was compressed: go on with the rest
    obtain ⟨hn, ha⟩ := accumulate_inv L S c hw D hi hacc
    have hc := compressBlock_nonfinal L S c _ false (fuelFor s1) s1 _ ha
    rw [hcb] at hc
    exact accepted_more (fun D' => DInv L S base H D' _ _) hn (ih _ (hc.2.1 rfl).1 he)
  case case5 => cases he                -- the destination refused
  case case6 hacc _ ih =>               -- the buffer is not full: go on
    obtain ⟨hn, ha⟩ := accumulate_inv L S c hw D hi hacc
    exact accepted_more (fun D' => DInv L S base H D' _ _) hn (ih _ ha he)
  -- out of fuel (case1), or nothing left to write (case2)
  all_goals exact ⟨0, rfl, Nat.zero_le _, by simpa using hi⟩


/-- a state in which everything written has been processed and no token is pending: the chain covers all of D -/
theorem chain_all (L : DynLeaves MF Tok) {mode : Mode} (S : Sound L mode) (D : List UInt8) (s : Dyn MF Tok) (d : Dst)
    (hi : DInv L S base H D s d) (hidx : s.idx = s.buf.length) (htok : s.tokens = []) :
    ∃ n, Emitted mode base H d s.carry n D := by
  obtain ⟨n, q, hq, hch, hres⟩ := hi.chain
  have hproc := hi.proc
  rw [htok, S.resolve_nil] at hres
  have hl := congrArg List.length hres
  simp only [List.length_nil, List.length_drop, List.length_take] at hl
  have hqD : q = D.length := by omega
  rw [hqD, List.take_length] at hch
  exact ⟨n, hi.healthy, hi.baseLe, hi.pre, hch⟩

/-- Writer.Flush on a healthy destination: succeeds; what the destination holds is a chain of complete non-final
    blocks for ALL the data written so far, and nothing is held back in the bit carry -/
theorem flush_tracks (L : DynLeaves MF Tok) {mode : Mode} (S : Sound L mode) (c : Cfg) (D : List UInt8)
    (w : WState MF Tok) (he : w.err = none) (hi : DInv L S base H D w.dyn w.dst) :
    (flush L c w).2.err = none ∧ (flush L c w).1.err = none ∧
    DInv L S base H D (flush L c w).1.dyn (flush L c w).1.dst ∧ (flush L c w).1.dyn.carry = [] ∧
    ∃ n, Chain mode n 0 (bytesToBits (body base (flush L c w).1.dst)) #[] D := by
  unfold flush
  rw [he]
  obtain ⟨_, c2, c3⟩ := compressBlock_nonfinal L S c D true (fuelFor w.dyn) w.dyn w.dst hi
  have hok := c3 rfl (by unfold fuelFor; omega)
  generalize compressBlock L c true false (fuelFor w.dyn) w.dyn w.dst = cb at c2 hok
  obtain ⟨s1, d1, o⟩ := cb
  dsimp only at c2 hok
  subst hok
  obtain ⟨i1, i2⟩ := c2 rfl
  obtain ⟨i3, i4⟩ := i2 rfl
  obtain ⟨n, hall⟩ := chain_all L S D s1 d1 i1 i3 i4
  obtain ⟨d2, hw, hh, hb⟩ := write_ok d1 i1.healthy (emptyStored s1.carry false)
  have he2 := hall.snoc_empty hh hb
  simp only [hw]
  have hp : s1.processed = D.length := by have := i1.proc; omega
  have hch := he2.chain
  rw [List.append_nil] at hch
  refine ⟨trivial, trivial, ⟨hh, he2.baseLe, he2.pre, i1.bufLe, i1.bufEq, i1.idxLe, i1.proc, i1.empty,
    n + 1, s1.processed, Nat.le_refl _, ?_, ?_⟩, trivial, n + 1, hch⟩
  · rw [hp, List.take_length]; exact he2.chain
  · rw [i4]; exact (S.resolve_nil _).trans List.drop_take_self.symm

/-- dynCompressor.compressBlock(final): healthy destination ⇒ succeeds and completes the stream (non-final
    blocks while the match finder stops early, then the final block) -/
theorem compressBlock_final (L : DynLeaves MF Tok) {mode : Mode} (S : Sound L mode) (c : Cfg) (D : List UInt8)
    (fuel : Nat) (s : Dyn MF Tok) (d : Dst) (hi : DInv L S base H D s d) (hfu : s.buf.length - s.idx < fuel) :
    ∃ s1 d1, compressBlock L c true true fuel s d = (s1, d1, .ok) ∧
      ClosedStream mode D (body base d1) ∧ d1.Healthy ∧ base ≤ d1.bytes.length ∧ d1.bytes.take base = H := by
  induction fuel generalizing s d with
  | zero => omega
  | succ fuel ih =>
  rw [compressBlock_succ]
  simp only [true_and, not_true_eq_false, and_false, if_false]
  by_cases h0 : s.buf.length = 0
  · obtain ⟨n, q, _, hch, _⟩ := hi.chain
    obtain ⟨d1, hw, hh, hb⟩ := write_ok d hi.healthy (emptyStored s.carry true)
    rw [if_pos h0, hw]
    exact ⟨_, d1, rfl, Emitted.closed_empty ⟨hi.healthy, hi.baseLe, hi.pre, hch⟩ (by rw [hi.empty h0, List.drop_nil]) hh hb⟩
  · rw [if_neg h0]
    obtain ⟨hg, hgf, hgb⟩ := afterGen_inv L S D true s d hi
    have hprog := hgf rfl
    have hsidx := hi.idxLe
    have hle := hg.idxLe
    generalize afterGen L true s = s1 at hg hprog hgb hle
    by_cases hidx : s1.idx = s1.buf.length
    · -- everything consumed: this is the final block
      obtain ⟨n, q, _, hch, hres⟩ := hg.chain
      obtain ⟨B, hB, _, hfin⟩ := S.enc s1.mf s1.tokens true s1.carry (D.take q) (bytesToBits (body base d) ++ s1.carry).length
      obtain ⟨d1, hw, hh, hb⟩ := writeAll_ok d hg.healthy (L.encode s1.mf (s1.tokens ++ [L.eob]) true s1.carry).1
      have hp : s1.processed = D.length := by have := hg.proc; omega
      rw [hres, hp, List.take_length] at hB
      simp only [hidx, decide_true, if_true, encDst, hw]
      exact ⟨_, d1, rfl, Emitted.closed_padded ⟨hg.healthy, hg.baseLe, hg.pre, hch⟩ hh hb (hfin rfl).2 hB⟩
    · -- the match finder stopped early: a non-final block, then again
      obtain ⟨d1, hed⟩ := encDst_ok L false s1 d hg.healthy
      have he := afterEnc_inv L S D s1 d hg
      rw [hed] at he
      simp only [hidx, decide_false, if_false, hed]
      apply ih _ _ he
      show s1.buf.length - s1.idx < fuel
      rw [hgb] at hle ⊢
      rcases hprog with h | h
      · exact absurd h hidx
      · omega

/-- "the Writer is open and D is everything written to it since it was created or last Reset" -/
def Tracks (L : DynLeaves MF Tok) {mode : Mode} (S : Sound L mode) (base : Nat) (H : List UInt8) (D : List UInt8) (w : WState MF Tok) : Prop :=
  w.err = none ∧ DInv L S base H D w.dyn w.dst

/-- a Writer that was just created or Reset, seen from a wrapper that has already written `d.bytes` (its header)
    to the shared destination: the DEFLATE stream begins there -/
theorem tracks_fresh (L : DynLeaves MF Tok) {mode : Mode} (S : Sound L mode) (w : WState MF Tok) (hh : w.dst.Healthy)
    (he : w.err = none) (h1 : w.dyn.buf = []) (h2 : w.dyn.idx = 0) (h3 : w.dyn.processed = 0) (h4 : w.dyn.tokens = [])
    (h5 : w.dyn.carry = []) :
    Tracks L S w.dst.bytes.length w.dst.bytes [] w := by
  have hf := Emitted.fresh mode w.dst hh
  rw [← h5] at hf
  exact ⟨he, hh, hf.baseLe, hf.pre, by simp [h1], by simp [h1], by simp [h1, h2], by simp [h1, h2, h3], fun _ => rfl,
    0, 0, Nat.zero_le _, hf.chain, by simp [h4, S.resolve_nil, h3]⟩

theorem tracks_init (L : DynLeaves MF Tok) {mode : Mode} (S : Sound L mode) (d : Dst) (hh : d.Healthy) (hd : d.got = []) :
    Tracks L S 0 [] [] (WState.init L d) := by
  have := tracks_fresh L S (WState.init L d) hh rfl rfl rfl rfl rfl rfl
  rwa [show (WState.init L d).dst.bytes = [] from bytes_nil hd] at this

theorem tracks_reset (L : DynLeaves MF Tok) {mode : Mode} (S : Sound L mode) (w : WState MF Tok) (d : Dst) (hh : d.Healthy) (hd : d.got = []) :
    Tracks L S 0 [] [] (reset L w d) := by
  have := tracks_fresh L S (reset L w d) hh rfl rfl rfl rfl rfl rfl
  rwa [show (reset L w d).dst.bytes = [] from bytes_nil hd] at this

theorem write_tracks (L : DynLeaves MF Tok) {mode : Mode} (S : Sound L mode) (c : Cfg) (hw : 0 < c.window) (D data : List UInt8)
    (w : WState MF Tok) (ht : Tracks L S base H D w) (he : (write L c w data).2.err = none) :
    (write L c w data).2.n ≤ data.length ∧ Tracks L S base H (D ++ data.take (write L c w data).2.n) (write L c w data).1 := by
  rw [write_eq_loop L c w data ht.1] at he ⊢
  obtain ⟨k, e2, e3, e4⟩ := writeLoop_inv L S c hw (data.length + 1) D data w 0 ht.2 he
  rw [Nat.zero_add] at e2
  rw [e2]
  exact ⟨e3, ((writeLoop_ran L c _ w data 0).ok he).1.trans ht.1, e4⟩

theorem close_tracks (L : DynLeaves MF Tok) {mode : Mode} (S : Sound L mode) (c : Cfg) (D : List UInt8)
    (w : WState MF Tok) (ht : Tracks L S base H D w) :
    (close L c w).2.err = none ∧ (close L c w).1.err = some .closed ∧ ClosedStream mode D (body base (close L c w).1.dst) ∧
    (close L c w).1.dst.Healthy ∧ base ≤ (close L c w).1.dst.bytes.length ∧ (close L c w).1.dst.bytes.take base = H := by
  obtain ⟨s1, d1, h, hc⟩ := compressBlock_final L S c D (fuelFor w.dyn) w.dyn w.dst ht.2 (by unfold fuelFor; omega)
  unfold close
  rw [ht.1]
  dsimp only
  rw [h]
  exact ⟨rfl, rfl, hc⟩

theorem closedStream_inflate {mode : Mode} {D bytes : List UInt8} (h : ClosedStream mode D bytes) :
    ∃ st rest, inflate mode [] bytes = .done D.toArray rest st ∧ rest.length < 8 ∧ ∀ b ∈ rest, b = false := by
  obtain ⟨n, q, E, B, rest, hc, hb, hbytes, hl, hz⟩ := h
  obtain ⟨st, hinf⟩ := inflate_of_chain_final bytes hc hb hbytes
  rw [List.take_append_drop] at hinf
  exact ⟨st, rest, hinf, hl, hz⟩


/-- operations that keep a Writer open: Write, Flush, and Reset onto a fresh healthy destination -/
def Op.keepsOpen : Op → Prop
  | .write _ => True
  | .flush => True
  | .reset d => d.Healthy ∧ d.got = []
  | .close => False

/-- the data of the current stream after an operation with result `r` -/
def dataAfter (D : List UInt8) : Op → OpRes → List UInt8
  | .write data, r => D ++ data.take r.n
  | .reset _, _ => []
  | _, _ => D

def dataAfterAll (D : List UInt8) : List Op → List OpRes → List UInt8
  | op :: ops, r :: rs => dataAfterAll (dataAfter D op r) ops rs
  | _, _ => D

theorem step_tracks (L : DynLeaves MF Tok) {mode : Mode} (S : Sound L mode) (c : Cfg) (hw : 0 < c.window) (D : List UInt8)
    (w : WState MF Tok) (ht : Tracks L S 0 [] D w) (op : Op) (hop : op.keepsOpen) (he : (step L c w op).2.err = none) :
    Tracks L S 0 [] (dataAfter D op (step L c w op).2) (step L c w op).1 := by
  cases op with
  | write data => exact (write_tracks L S c hw D data w ht he).2
  | flush =>
    obtain ⟨_, f2, f3, _⟩ := flush_tracks L S c D w ht.1 ht.2
    exact ⟨f2, f3⟩
  | close => exact hop.elim
  | reset d => exact tracks_reset L S w d hop.1 hop.2

theorem run_tracks (L : DynLeaves MF Tok) {mode : Mode} (S : Sound L mode) (c : Cfg) (hw : 0 < c.window)
    (ops : List Op) (D : List UInt8) (w : WState MF Tok) (ht : Tracks L S 0 [] D w)
    (hops : ∀ op ∈ ops, op.keepsOpen) (he : ∀ r ∈ (run L c w ops).2, r.err = none) :
    Tracks L S 0 [] (dataAfterAll D ops (run L c w ops).2) (run L c w ops).1 := by
  induction ops generalizing D w with
  | nil => exact ht
  | cons op ops ih =>
    obtain ⟨ho, hops⟩ := List.forall_mem_cons.mp hops
    obtain ⟨he1, he⟩ := List.forall_mem_cons.mp he
    exact ih _ _ (step_tracks L S c hw D w ht op ho he1) hops he

end Fastgo.Writer
