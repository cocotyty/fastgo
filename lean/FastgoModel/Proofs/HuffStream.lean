import FastgoModel.Proofs.WriterStream
import FastgoModel.Writer.HuffControl
/-
  Stream composition for the Huffman-only compressor: the same flush-point and round-trip theorems as for the
  dynamic compressor, under the block encoder's contract `HSound`.
-/
namespace Fastgo.Writer
open Fastgo.Spec
variable {σ : Type} {base : Nat} {H : List UInt8}

/-- leaf contract: one Huffman-only block that the specification inflater decodes to the buffered bytes -/
structure HSound (L : HuffLeaf σ) (mode : Mode) : Prop where
  enc : ∀ (ls : σ) (buf : List UInt8) (final : Bool) (carry : Bits) (h : List UInt8) (pos : Nat), buf ≠ [] →
    ∃ B, IsBlock mode pos B final h.toArray buf ∧
      (final = false → bytesToBits (L.encode ls buf final carry).1.flatten ++ (L.encode ls buf final carry).2.1 = carry ++ B) ∧
      (final = true → (L.encode ls buf final carry).2.1 = [] ∧
        bytesToBits (L.encode ls buf final carry).1.flatten = carry ++ B ++ List.replicate (padLen (carry ++ B).length) false)

structure HInv (mode : Mode) (base : Nat) (H : List UInt8) (D : List UInt8) (s : Huff σ) (d : Dst) : Prop where
  healthy : d.Healthy
  baseLe  : base ≤ d.bytes.length
  pre     : d.bytes.take base = H
  chain : ∃ n q, q + s.buf.length = D.length ∧ s.buf = D.drop q ∧
    Chain mode n 0 (bytesToBits (body base d) ++ s.carry) #[] (D.take q)

theorem hinv_fresh (mode : Mode) (s : Huff σ) (d : Dst) (hh : d.Healthy) (h1 : s.buf = []) (h2 : s.carry = []) :
    HInv mode d.bytes.length d.bytes [] s d := by
  have he := Emitted.fresh mode d hh
  rw [← h2] at he
  exact ⟨hh, he.baseLe, he.pre, 0, 0, by simp [h1], by simp [h1], he.chain⟩

theorem hinv_init (mode : Mode) (ls : σ) (d : Dst) (hh : d.Healthy) (hd : d.got = []) : HInv mode 0 [] [] { ls := ls } d := by
  have := hinv_fresh mode ({ ls := ls } : Huff σ) d hh rfl rfl
  rw [bytes_nil hd] at this; exact this

theorem hAccumulate_inv (mode : Mode) (max : Nat) (D : List UInt8) {data : List UInt8} {s : Huff σ} {d : Dst} (hi : HInv mode base H D s d)
    {s1 : Huff σ} {n : Nat} {trig : Bool} (h : hAccumulate max s data = (s1, n, trig)) :
    n ≤ data.length ∧ HInv mode base H (D ++ data.take n) s1 d := by
  obtain ⟨m, q, h1, h2, h3⟩ := hi.chain
  cases h
  refine ⟨Nat.min_le_right _ _, hi.healthy, hi.baseLe, hi.pre, m, q, ?_, ?_, ?_⟩
  · simp only [List.length_append]; omega
  · rw [List.drop_append_of_le_length (by omega), ← h2]
  · rw [List.take_append_of_le_length (by omega)]; exact h3

/-- a non-final encodeBlock on a healthy destination: succeeds, empties the buffer, extends the chain to all of D -/
theorem hEncode_ok (L : HuffLeaf σ) {mode : Mode} (S : HSound L mode) {D : List UInt8} {s : Huff σ} {d : Dst}
    (hi : HInv mode base H D s d) :
    ∃ s1 d1 n, hEncodeBlock L false s d = (s1, d1, true) ∧ s1.buf = [] ∧ Emitted mode base H d1 s1.carry n D := by
  obtain ⟨n, q, h1, h2, h3⟩ := hi.chain
  have he : Emitted mode base H d s.carry n (D.take q) := ⟨hi.healthy, hi.baseLe, hi.pre, h3⟩
  unfold hEncodeBlock
  simp only [Bool.false_eq_true, false_and, if_false]
  by_cases hb : s.buf = []
  · have hq : q = D.length := by rw [hb] at h1; simpa using h1
    rw [hq, List.take_length] at he
    rw [if_pos hb]
    exact ⟨s, d, n, rfl, hb, he⟩
  · obtain ⟨B, hB, hnf, _⟩ := S.enc s.ls s.buf false s.carry (D.take q) (bytesToBits (body base d) ++ s.carry).length hb
    obtain ⟨d1, hw, hh, hbs⟩ := writeAll_ok d hi.healthy (L.encode s.ls s.buf false s.carry).1
    have he1 := he.snoc hh hbs (hnf rfl) hB
    rw [show D.take q ++ s.buf = D by rw [h2, List.take_append_drop]] at he1
    rw [if_neg hb, hw]
    exact ⟨_, d1, n + 1, rfl, rfl, he1⟩

theorem HInv.of_emitted {mode : Mode} {D : List UInt8} {s : Huff σ} {d : Dst} {n : Nat} (hb : s.buf = [])
    (he : Emitted mode base H d s.carry n D) : HInv mode base H D s d :=
  ⟨he.healthy, he.baseLe, he.pre, n, D.length, by simp [hb], by simp [hb], by rw [List.take_length]; exact he.chain⟩

theorem hEncode_nonfinal (L : HuffLeaf σ) {mode : Mode} (S : HSound L mode) (D : List UInt8) (s : Huff σ) (d : Dst)
    (hi : HInv mode base H D s d) :
    (hEncodeBlock L false s d).2.2 = true ∧ HInv mode base H D (hEncodeBlock L false s d).1 (hEncodeBlock L false s d).2.1 ∧
    (hEncodeBlock L false s d).1.buf = [] := by
  obtain ⟨s1, d1, n, h, hb, he⟩ := hEncode_ok L S hi
  rw [h]
  exact ⟨rfl, .of_emitted hb he, hb⟩

theorem hWriteLoop_nil (L : HuffLeaf σ) (max fuel : Nat) (w : HState σ) (num : Nat) :
    hWriteLoop L max fuel w [] num = (w, { n := num }) := by
  cases fuel <;> simp [hWriteLoop]

theorem hWriteLoop_inv (L : HuffLeaf σ) {mode : Mode} (S : HSound L mode) (max : Nat)
    (fuel : Nat) (D data : List UInt8) (w : HState σ) (num : Nat) (hi : HInv mode base H D w.huff w.dst) :
    (hWriteLoop L max fuel w data num).2.err = none →
      (hWriteLoop L max fuel w data num).1.err = w.err ∧
      ∃ k, (hWriteLoop L max fuel w data num).2.n = num + k ∧ k ≤ data.length ∧
        HInv mode base H (D ++ data.take k) (hWriteLoop L max fuel w data num).1.huff (hWriteLoop L max fuel w data num).1.dst := by
  fun_induction hWriteLoop L max fuel w data num generalizing D
  case case3 hcb hacc =>       -- the full buffer was encoded, but nothing could be copied
    obtain ⟨_, _, _, h, hb, hem⟩ := hEncode_ok L S (hAccumulate_inv mode max D hi hacc).2
    cases hcb.symm.trans h
    exact fun _ => ⟨rfl, 0, rfl, Nat.zero_le _, by simpa using HInv.of_emitted hb hem⟩
  case case4 hcb _ hacc ih =>  -- the full buffer was encoded: go on with the rest
    obtain ⟨hn, ha⟩ := hAccumulate_inv mode max D hi hacc
    obtain ⟨_, _, _, h, hb, hem⟩ := hEncode_ok L S ha
    cases hcb.symm.trans h
    intro he
    obtain ⟨e1, e⟩ := ih _ (.of_emitted hb hem) he
    exact ⟨e1, accepted_more (fun D' => HInv mode base H D' _ _) hn e⟩
  case case5 => intro he; cases he  -- the destination refused
  case case6 hacc _ ih =>      -- the buffer is not full: go on
    obtain ⟨hn, ha⟩ := hAccumulate_inv mode max D hi hacc
    intro he
    obtain ⟨e1, e⟩ := ih _ ha he
    exact ⟨e1, accepted_more (fun D' => HInv mode base H D' _ _) hn e⟩
  -- out of fuel (case1), or nothing left to write (case2)
  all_goals exact fun _ => ⟨rfl, 0, rfl, Nat.zero_le _, by simpa using hi⟩

def HTracks (mode : Mode) (base : Nat) (H : List UInt8) (D : List UInt8) (w : HState σ) : Prop :=
  w.err = none ∧ HInv mode base H D w.huff w.dst

theorem hWrite_tracks (L : HuffLeaf σ) {mode : Mode} (S : HSound L mode) (max : Nat) (D data : List UInt8)
    (w : HState σ) (ht : HTracks mode base H D w) (he : (hWrite L max w data).2.err = none) :
    HTracks mode base H (D ++ data.take (hWrite L max w data).2.n) (hWrite L max w data).1 := by
  unfold hWrite at he ⊢
  rw [ht.1] at he ⊢
  simp only at he ⊢
  obtain ⟨e1, k, e2, _, e4⟩ := hWriteLoop_inv L S max (data.length + 1) D data w 0 ht.2 he
  rw [Nat.zero_add] at e2
  rw [e2]
  exact ⟨e1.trans ht.1, e4⟩

theorem hFlush_tracks (L : HuffLeaf σ) {mode : Mode} (S : HSound L mode) (D : List UInt8) (w : HState σ)
    (ht : HTracks mode base H D w) :
    (hFlush L w).2.err = none ∧ HTracks mode base H D (hFlush L w).1 ∧ (hFlush L w).1.huff.carry = [] ∧
    ∃ n, Chain mode n 0 (bytesToBits (body base (hFlush L w).1.dst)) #[] D := by
  obtain ⟨s1, d1, n, h, hb, he⟩ := hEncode_ok L S ht.2
  obtain ⟨d2, hw, hh, hbs⟩ := write_ok d1 he.healthy (emptyStored s1.carry false)
  have he2 := he.snoc_empty hh hbs
  have hch := he2.chain
  rw [List.append_nil] at hch
  unfold hFlush
  simp only [ht.1, h, hw]
  exact ⟨trivial, ⟨rfl, .of_emitted hb he2⟩, trivial, n + 1, hch⟩

theorem hClose_tracks (L : HuffLeaf σ) {mode : Mode} (S : HSound L mode) (D : List UInt8) (w : HState σ)
    (ht : HTracks mode base H D w) :
    (hClose L w).2.err = none ∧ (hClose L w).1.err = some .closed ∧ ClosedStream mode D (body base (hClose L w).1.dst) ∧
    (hClose L w).1.dst.Healthy ∧ base ≤ (hClose L w).1.dst.bytes.length ∧ (hClose L w).1.dst.bytes.take base = H := by
  obtain ⟨n, q, h1, h2, h3⟩ := ht.2.chain
  have he : Emitted mode base H w.dst w.huff.carry n (D.take q) := ⟨ht.2.healthy, ht.2.baseLe, ht.2.pre, h3⟩
  unfold hClose hEncodeBlock
  by_cases hb : w.huff.buf = []
  · obtain ⟨d1, hw, hh, hbs⟩ := write_ok w.dst he.healthy (emptyStored w.huff.carry true)
    simp only [ht.1, hb, and_self, if_true, hw]
    exact ⟨trivial, trivial, he.closed_empty (by rw [← h2, hb]) hh hbs⟩
  · obtain ⟨B, hB, _, hfin⟩ := S.enc w.huff.ls w.huff.buf true w.huff.carry (D.take q) (bytesToBits (body base w.dst) ++ w.huff.carry).length hb
    obtain ⟨d1, hw, hh, hbs⟩ := writeAll_ok w.dst he.healthy (L.encode w.huff.ls w.huff.buf true w.huff.carry).1
    rw [h2] at hB
    simp only [ht.1, hb, and_false, if_false, hw]
    exact ⟨trivial, trivial, he.closed_padded hh hbs (hfin rfl).2 hB⟩

theorem hStep_tracks (L : HuffLeaf σ) {mode : Mode} (S : HSound L mode) (max : Nat) (D : List UInt8)
    (w : HState σ) (ht : HTracks mode 0 [] D w) (op : Op) (hop : op.keepsOpen) (he : (hStep L max w op).2.err = none) :
    HTracks mode 0 [] (dataAfter D op (hStep L max w op).2) (hStep L max w op).1 := by
  cases op with
  | write data => exact hWrite_tracks L S max D data w ht he
  | flush => exact (hFlush_tracks L S D w ht).2.1
  | close => exact hop.elim
  | reset d => exact ⟨rfl, hinv_init mode w.huff.ls d hop.1 hop.2⟩

theorem hRun_tracks (L : HuffLeaf σ) {mode : Mode} (S : HSound L mode) (max : Nat)
    (ops : List Op) (D : List UInt8) (w : HState σ) (ht : HTracks mode 0 [] D w)
    (hops : ∀ op ∈ ops, op.keepsOpen) (he : ∀ r ∈ (hRun L max w ops).2, r.err = none) :
    HTracks mode 0 [] (dataAfterAll D ops (hRun L max w ops).2) (hRun L max w ops).1 := by
  induction ops generalizing D w with
  | nil => exact ht
  | cons op ops ih =>
    obtain ⟨ho, hops⟩ := List.forall_mem_cons.mp hops
    obtain ⟨he1, he⟩ := List.forall_mem_cons.mp he
    exact ih _ _ (hStep_tracks L S max D w ht op ho he1) hops he

end Fastgo.Writer
