import FastgoModel.Spec.Inflate
/-
  Composition of DEFLATE blocks at the level of the specification inflater: a stream is a chain of blocks, each
  of which decodes on its own whatever follows it (this is what lets a Writer emit a stream incrementally).
-/
namespace Fastgo.Spec

/-- the bits `B`, placed at absolute bit position `pos`, are one complete block that extends the output `h`
    by `x` — whatever bits follow and whatever the statistics so far -/
def IsBlock (mode : Mode) (pos : Nat) (B : Bits) (final : Bool) (h : Array UInt8) (x : List UInt8) : Prop :=
  ∀ (t : Bits) (st : Stats), ∃ st', inflateBlock mode pos (B ++ t) h st = .next final (h ++ x.toArray) t st'

/-- `E`, placed at `pos`, is a sequence of `n` complete NON-final blocks that extends the output `h` by `d` -/
inductive Chain (mode : Mode) : Nat → Nat → Bits → Array UInt8 → List UInt8 → Prop
  | nil (pos : Nat) (h : Array UInt8) : Chain mode 0 pos [] h []
  | cons (n pos : Nat) (B E : Bits) (h : Array UInt8) (x d : List UInt8) :
      IsBlock mode pos B false h x → Chain mode n (pos + B.length) E (h ++ x.toArray) d →
      Chain mode (n + 1) pos (B ++ E) h (x ++ d)

theorem Chain.snoc {mode : Mode} {n pos : Nat} {E : Bits} {h : Array UInt8} {d : List UInt8}
    (hc : Chain mode n pos E h d) (B : Bits) (x : List UInt8)
    (hb : IsBlock mode (pos + E.length) B false (h ++ d.toArray) x) :
    Chain mode (n + 1) pos (E ++ B) h (d ++ x) := by
  induction hc with
  | nil pos h => simpa using Chain.cons 0 pos B [] h x [] (by simpa using hb) (Chain.nil _ _)
  | cons n pos B0 E0 h x0 d0 hb0 _ ih =>
    simpa [List.append_assoc] using Chain.cons (n + 1) pos B0 (E0 ++ B) h x0 (d0 ++ x) hb0
      (ih (by simpa [Nat.add_assoc, Array.append_assoc] using hb))

theorem chain_inflate {mode : Mode} {n pos : Nat} {E : Bits} {h : Array UInt8} {d : List UInt8}
    (hc : Chain mode n pos E h d) (t : Bits) (fuel : Nat) (st : Stats) :
    ∃ st', inflateBlocks mode (fuel + n) pos (E ++ t) h st = inflateBlocks mode fuel (pos + E.length) t (h ++ d.toArray) st' := by
  induction hc generalizing st with
  | nil pos h => exact ⟨st, by simp⟩
  | cons n pos B E h x d hb _ ih =>
    obtain ⟨st1, h1⟩ := hb (E ++ t) st
    obtain ⟨st2, h2⟩ := ih st1
    refine ⟨st2, ?_⟩
    have hf : fuel + (n + 1) = (fuel + n) + 1 := by omega
    rw [hf, inflateBlocks, List.append_assoc, h1]
    simp only [Bool.false_eq_true, if_false]
    have hp : pos + ((B ++ (E ++ t)).length - (E ++ t).length) = pos + B.length := by simp
    rw [hp, h2]
    simp [Nat.add_assoc, Array.append_assoc]


theorem inflateBlock_nil (mode : Mode) (pos : Nat) (h : Array UInt8) (st : Stats) :
    inflateBlock mode pos [] h st = .needMore h [] st true := rfl

theorem IsBlock.ne_nil {mode : Mode} {pos : Nat} {B : Bits} {final : Bool} {h : Array UInt8} {x : List UInt8}
    (hb : IsBlock mode pos B final h x) : B ≠ [] := by
  intro hn
  subst hn
  obtain ⟨st', h1⟩ := hb [] {}
  rw [List.append_nil, inflateBlock_nil] at h1
  cases h1

theorem Chain.len_le {mode : Mode} {n pos : Nat} {E : Bits} {h : Array UInt8} {d : List UInt8}
    (hc : Chain mode n pos E h d) : n ≤ E.length := by
  induction hc with
  | nil => simp
  | cons n pos B E h x d hb _ ih =>
    have := List.length_pos_iff.mpr hb.ne_nil
    simp only [List.length_append]; omega

/-- behind a chain of non-final blocks `inflate` goes on, with fuel left -/
theorem inflate_chain {mode : Mode} {n : Nat} (bytes : List UInt8) {E t : Bits} {d : List UInt8}
    (hc : Chain mode n 0 E #[] d) (hbytes : bytesToBits bytes = E ++ t) :
    ∃ fuel st', inflate mode [] bytes = inflateBlocks mode (fuel + 1) E.length t d.toArray st' := by
  have hn := hc.len_le
  obtain ⟨st', h⟩ := chain_inflate hc t ((E ++ t).length - n + 1) {}
  refine ⟨(E ++ t).length - n, st', ?_⟩
  rw [inflate, hbytes, show (E ++ t).length + 1 = (E ++ t).length - n + 1 + n by rw [List.length_append]; omega, h]
  simp

/-- a byte string that is a chain of non-final blocks: `inflate` has reproduced all the data and asks for more
    input exactly at a block boundary -/
theorem inflate_of_chain {mode : Mode} {n : Nat} (bytes : List UInt8) {d : List UInt8}
    (hc : Chain mode n 0 (bytesToBits bytes) #[] d) :
    ∃ st', inflate mode [] bytes = .needMore d.toArray [] st' true := by
  obtain ⟨fuel, st', h⟩ := inflate_chain bytes hc (List.append_nil _).symm
  exact ⟨st', by rw [h, inflateBlocks, inflateBlock_nil]⟩

/-- a byte string that is a chain of non-final blocks, a final block and `rest`: `inflate` is done with all data and
    leaves exactly what follows the final block -/
theorem inflate_of_chain_final {mode : Mode} {n : Nat} (bytes : List UInt8) {E B rest : Bits} {d x : List UInt8}
    (hc : Chain mode n 0 E #[] d) (hb : IsBlock mode E.length B true d.toArray x)
    (hbytes : bytesToBits bytes = E ++ (B ++ rest)) :
    ∃ st', inflate mode [] bytes = .done (d ++ x).toArray rest st' := by
  obtain ⟨fuel, st1, h⟩ := inflate_chain bytes hc hbytes
  obtain ⟨st2, h2⟩ := hb rest st1
  exact ⟨st2, by rw [h, inflateBlocks, h2]; simp⟩

end Fastgo.Spec
