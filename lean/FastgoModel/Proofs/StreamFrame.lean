import FastgoModel.Proofs.BlockFrame
import FastgoModel.Container.Members
import FastgoModel.Proofs.ZlibHeader
import FastgoModel.Proofs.GzipHeader
/-
  Prefix stability of the specification inflater on whole streams, and the specification inflater as the `Inflater` of
  the container Reader models: a byte string that the specification decodes to the end, from any preset dictionary, is
  decoded identically WHATEVER bytes follow, and exactly those bytes are left (`inflateBlocks_prefix_stable`,
  `inflate_prefix_stable_dict`); so the specification inflater stops exactly behind every complete stream
  (`specInflater_exact_of_done`), so the container read-back theorems need no `Exact` hypothesis.
  The decidable side conditions `streamPF` / `checkStream` always hold (`streamPF_of_done`); the statements that carry
  them are corollaries.
-/
namespace Fastgo.Spec

theorem inflateBlocks_prefix_stable (mode : Mode) (t : Bits) {fuel pos : Nat} {bs : Bits} {out : Array UInt8} {st : Stats}
    {O : Array UInt8} {R : Bits} {S : Stats} : inflateBlocks mode fuel pos bs out st = .done O R S →
    ∀ (st' : Stats) {fuel' : Nat}, fuel ≤ fuel' →
      ∃ S', inflateBlocks mode fuel' pos (bs ++ t) out st' = .done O (R ++ t) S' := by
  -- the final block; a block that is not the last
  fun_induction inflateBlocks mode fuel pos bs out st with
  | case4 f pos bs out st o r s hb =>
    intro h st' fuel' hf
    obtain ⟨f', rfl⟩ : ∃ f', fuel' = f' + 1 := ⟨fuel' - 1, by omega⟩
    obtain ⟨s1, h2⟩ := inflateBlock_prefix_stable mode pos bs out st true o r s hb t st'
    cases h
    rw [inflateBlocks, h2]
    exact ⟨s1, rfl⟩
  | case5 f pos bs out st final o r s hb hfin ih =>
    intro h st' fuel' hf
    obtain ⟨f', rfl⟩ : ∃ f', fuel' = f' + 1 := ⟨fuel' - 1, by omega⟩
    obtain ⟨s1, h2⟩ := inflateBlock_prefix_stable mode pos bs out st final o r s hb t st'
    rw [inflateBlocks, h2]
    simp only [hfin, List.length_append, Nat.add_sub_add_right]
    exact ih h s1 (by omega)
  | _ => exact nofun

theorem inflateBlocks_frame (mode : Mode) : ∀ (fuel : Nat) (pos : Nat) (bs : Bits) (out : Array UInt8) (st : Stats)
    (O : Array UInt8) (R : Bits) (S : Stats),
    streamPF mode fuel pos bs out = true → inflateBlocks mode fuel pos bs out st = .done O R S →
    ∀ (t : Bits) (st' : Stats) (fuel' : Nat), fuel ≤ fuel' →
      ∃ S', inflateBlocks mode fuel' pos (bs ++ t) out st' = .done O (R ++ t) S' :=
  fun _ _ _ _ _ _ _ _ _ hb t st' _ hf => inflateBlocks_prefix_stable mode t hb st' hf

theorem streamPF_of_done (mode : Mode) : ∀ (fuel : Nat) (pos : Nat) (bs : Bits) (out : Array UInt8) (st : Stats)
    (O : Array UInt8) (R : Bits) (S : Stats),
    inflateBlocks mode fuel pos bs out st = .done O R S → streamPF mode fuel pos bs out = true := by
  intro fuel pos bs out st O R S
  -- the final block; a block that is not the last
  fun_induction inflateBlocks mode fuel pos bs out st with
  | case4 f pos bs out st o r s hb =>
    intro _
    have hpf := blockCodesPF_of_next mode pos bs out st true o r s hb
    obtain ⟨s0, h0⟩ := inflateBlock_stats mode pos bs out st {} true o r s hpf hb
    simp [streamPF, hpf, h0]
  | case5 f pos bs out st final o r s hb hfin ih =>
    intro h
    have hpf := blockCodesPF_of_next mode pos bs out st final o r s hb
    obtain ⟨s0, h0⟩ := inflateBlock_stats mode pos bs out st {} final o r s hpf hb
    simp [streamPF, hpf, h0, hfin, ih h]
  | _ => exact nofun

/-- **the specification inflater is prefix-stable, from any preset dictionary** (zlib FDICT, flate.NewReaderDict): a byte
    string it decodes to the end decodes to the same output when any bytes follow, and the bits left are the old rest
    followed by exactly those bytes (no condition on the rest: it need not be padding) -/
theorem inflate_prefix_stable_dict (mode : Mode) (dict bytes more : List UInt8) (out : Array UInt8) (rest : Bits) (st : Stats)
    (h : inflate mode dict bytes = .done out rest st) :
    ∃ st', inflate mode dict (bytes ++ more) = .done out (rest ++ bytesToBits more) st' := by
  unfold inflate at h ⊢
  rw [bytesToBits_append]
  exact inflateBlocks_prefix_stable mode _ h {} (by rw [List.length_append]; omega)

theorem inflate_output_independent_of_suffix (mode : Mode) (dict bytes m1 m2 : List UInt8) (out : Array UInt8) (rest : Bits)
    (st : Stats) (h : inflate mode dict bytes = .done out rest st) :
    ∃ s1 s2, inflate mode dict (bytes ++ m1) = .done out (rest ++ bytesToBits m1) s1 ∧
             inflate mode dict (bytes ++ m2) = .done out (rest ++ bytesToBits m2) s2 :=
  have ⟨s1, h1⟩ := inflate_prefix_stable_dict mode dict bytes m1 out rest st h
  have ⟨s2, h2⟩ := inflate_prefix_stable_dict mode dict bytes m2 out rest st h
  ⟨s1, s2, h1, h2⟩

/-- **the specification inflater is prefix-stable**: a byte string it decodes to the end (what is left being less than a
    byte of padding) decodes to the same data whatever bytes follow, leaving the padding and exactly those bytes -/
theorem inflate_prefix_stable (mode : Mode) (bytes more : List UInt8) (out : Array UInt8) (rest : Bits) (st : Stats)
    (h : inflate mode [] bytes = .done out rest st) (hr : rest.length < 8) :
    ∃ st', inflate mode [] (bytes ++ more) = .done out (rest ++ bytesToBits more) st' :=
  inflate_prefix_stable_dict mode [] bytes more out rest st h

/-- where a complete stream ends: the byte after the one holding the last bit of the final block is the first byte
    behind the stream, whatever follows (a stream is never empty, so fewer than 8 bits left are less than its length) -/
theorem inflate_done_position {mode : Mode} {dict body : List UInt8} {out : Array UInt8} {rest : Bits} {st : Stats}
    (h : inflate mode dict body = .done out rest st) (hr : rest.length < 8) (more : List UInt8) :
    (8 * (body ++ more).length - (rest ++ bytesToBits more).length + 7) / 8 = body.length := by
  have hne : 1 ≤ body.length := by
    cases body with
    | nil => simp [inflate, inflateBlocks, inflateBlock_nil, bytesToBits] at h
    | cons b bs => simp
  simp only [List.length_append, bytesToBits_length]
  omega

theorem checkStream_done (mode : Mode) (bytes : List UInt8) (hc : checkStream mode bytes = true) :
    ∃ out rest st, inflate mode [] bytes = .done out rest st ∧ rest.length < 8 := by
  unfold checkStream at hc
  rw [Bool.and_eq_true] at hc
  split at hc
  · exact ⟨_, _, _, ‹_›, of_decide_eq_true hc.2⟩
  · cases hc.2

/-- **frame theorem for streams**: a checked stream decodes to the same data whatever bytes follow, and what is left
    is its own padding followed by exactly those bytes -/
theorem inflate_frame (mode : Mode) (bytes more : List UInt8) (hc : checkStream mode bytes = true) :
    ∃ out rest st st', inflate mode [] bytes = .done out rest st ∧ rest.length < 8 ∧
      inflate mode [] (bytes ++ more) = .done out (rest ++ bytesToBits more) st' :=
  have ⟨out, rest, st, h, hr⟩ := checkStream_done mode bytes hc
  have ⟨st', h'⟩ := inflate_prefix_stable mode bytes more out rest st h hr
  ⟨out, rest, st, st', h, hr, h'⟩

end Fastgo.Spec

namespace Fastgo.Container
open Fastgo.Spec

/-- on EVERY complete stream the specification inflater meets the contract `Exact` of the container theorems -/
theorem specInflater_exact_of_done (mode : Mode) (body : List UInt8) (out : Array UInt8) (rest : Bits) (st : Stats)
    (h : inflate mode [] body = .done out rest st) (hr : rest.length < 8) :
    (specInflater mode).Exact body out.toList := by
  intro more
  obtain ⟨st', h2⟩ := inflate_prefix_stable mode body more out rest st h hr
  unfold specInflater
  rw [h2]
  dsimp only
  rw [inflate_done_position h hr more, List.drop_left]

/-- **C05 at the level of the specification**: on a checked stream the specification inflater meets the contract
    `Exact` of the container theorems — it yields the payload and leaves exactly what follows the stream -/
theorem specInflater_exact (mode : Mode) (body : List UInt8) (hc : checkStream mode body = true) :
    ∃ payload, (specInflater mode).Exact body payload ∧ specInflater mode body = some (payload, []) := by
  obtain ⟨out, rest, st, h, hr⟩ := checkStream_done mode body hc
  have hE := specInflater_exact_of_done mode body out rest st h hr
  exact ⟨out.toList, hE, by simpa using hE []⟩

/-- a gzip member whose body is a checked stream is read back by the Reader model over the SPECIFICATION inflater —
    header fields, payload, and the source left exactly behind the trailer — whatever follows it -/
theorem gzip_member_reads_back_spec (mode : Mode) (h : GzHeader) (hwf : h.WF) (level : Int) (body rest : List UInt8)
    (hc : checkStream mode body = true) :
    ∃ payload, specInflater mode body = some (payload, []) ∧
      readOneMember (specInflater mode) (gzMember h level body payload ++ rest) = some (h, payload, rest) := by
  obtain ⟨payload, hE, h0⟩ := specInflater_exact mode body hc
  exact ⟨payload, h0, readOneMember_member (specInflater mode) h hwf level body payload rest hE⟩

theorem readZlib_stream (I : Inflater) (level : Int) (body payload rest : List UInt8) (hI : I.Exact body payload) :
    readZlib I (emitZHeader level none ++ (body ++ (emitZTrailer payload ++ rest))) = some (payload, rest) := by
  unfold readZlib
  rw [zlib_header_roundtrip level none]
  simp only [Option.isSome_none]
  rw [hI]
  simp only [emitZTrailer, takeN_append_eq (be_length _ 4), unbe_be _ 4 (adler32_lt payload), if_true]

/-- a zlib stream whose DEFLATE body is a checked stream is read back by the Reader model over the specification
    inflater, leaving exactly what follows the Adler-32 trailer -/
theorem zlib_stream_reads_back_spec (mode : Mode) (level : Int) (body rest : List UInt8)
    (hc : checkStream mode body = true) :
    ∃ payload, specInflater mode body = some (payload, []) ∧
      readZlib (specInflater mode) (emitZHeader level none ++ (body ++ (emitZTrailer payload ++ rest))) = some (payload, rest) := by
  obtain ⟨payload, hE, h0⟩ := specInflater_exact mode body hc
  exact ⟨payload, h0, readZlib_stream (specInflater mode) level body payload rest hE⟩

end Fastgo.Container
