import FastgoModel.Props.Examples
import FastgoModel.Proofs.TokenCheck
import FastgoModel.Proofs.RoundTrip
/-!
# C01 — compress then decompress returns the input, for every call pattern

Model and leaf contracts: as for C10 (`Writer.Control`, `Sound`).

`C01_roundtrip_dyn` (unbounded: any data, any split over Write and Flush calls, Reset onto a fresh destination
in between, any number of buffer roll-overs and window slides): when Close is called on a Writer all of whose
calls so far returned nil, Close returns nil, and the bytes the destination holds are ONE COMPLETE RFC 1951
stream for exactly the data accepted since the stream began: the specification inflater returns `done` with
that data, and what is left over after the final block is fewer than 8 zero bits (the padding to the byte
boundary) — nothing is missing and nothing follows.

`C01_empty`: Close straight after NewWriter/Reset yields a valid stream of no data (the final empty stored block).

`C01_roundtrip_huff`: the same for the Huffman-only compressor (level -2) under `HSound`.

`C01_checked_call_meets_contract` (= `checkGen_gives_gen`): a match-finder call that passes the executable check
`checkGen` — which the `G` correspondence applies to recorded calls of the Go and assembly match finders at every
acceleration level — satisfies the equation of `Sound.gen` for that call, with `resolve := resolveR` (real tokens
executed the way an inflater executes them; `resolveR_nil`, `resolveR_app` are the two laws `Sound` asks of it), for
ANY history in front of the buffer. So `Sound.gen` is not only assumed: it is checked call by call with a proved check.

`C01_block_frame` (= `inflateBlock_frame`): the specification inflater is prefix-stable — a block that decodes completely on
its own bits (its declared Huffman codes being prefix-free, a decidable condition) decodes to the same output
whatever bits follow it and whatever was decoded before it statistics-wise. `C01_checked_block_meets_contract`
(= `checkEnc_gives_enc_suffix`): a call of a block encoder that passes the executable check `checkEnc` — which the `E`
correspondence applies to EVERY block the real encoders emit (Huffman code generation, dynamic header, token / byte
packing in Go, AVX2 or AVX-512, bit buffer; dynamic and Huffman-only compressor; every acceleration level) — satisfies
the `enc` clause of `Sound` / `HSound` for that call, for ANY output `p` in front of the history suffix `h` the check was
given (`C01_block_history_local`: the harness hands the check the last 32 KiB of the data encoded so far). So both halves of the leaf contract are checked call by call
with proved checks; what remains assumed is only that the calls the harness did not generate behave like the ones it did.

Scope of the theorems: the dynamic compressor (levels 1, 2, default; both windows — `Cfg.window` is a parameter)
given leaves that meet `Sound`, and the Huffman-only compressor given a block encoder that meets `HSound`. Decided by the harness oracle only (see evidence): that the Go/assembly leaves
meet `Sound` / `HSound` on calls the harness did not generate, the levels delegated to compress/flate,
preset dictionaries (delegated), and the agreement of compress/flate, the reference inflater and fastgo's own
Reader on the emitted bytes (the `I` and `R` correspondences tie those to the same specification inflater).
-/
namespace Fastgo.Writer
open Fastgo.Spec
variable {MF Tok : Type}

theorem C01_roundtrip_dyn (L : DynLeaves MF Tok) {mode : Mode} (S : Sound L mode) (c : Cfg) (hw : 0 < c.window)
    (dst : Dst) (hh : dst.Healthy) (hd : dst.got = []) (ops : List Op) (hops : ∀ op ∈ ops, op.keepsOpen)
    (hok : ∀ r ∈ (run L c (WState.init L dst) ops).2, r.err = none) :
    (close L c (run L c (WState.init L dst) ops).1).2.err = none ∧
    ∃ st rest, inflate mode [] (close L c (run L c (WState.init L dst) ops).1).1.dst.bytes =
      .done (dataAfterAll [] ops (run L c (WState.init L dst) ops).2).toArray rest st ∧
      rest.length < 8 ∧ ∀ b ∈ rest, b = false := by
  have ht := run_tracks L S c hw ops [] (WState.init L dst) (tracks_init L S dst hh hd) hops hok
  obtain ⟨c1, _, c3, _⟩ := close_tracks L S c _ _ ht
  exact ⟨c1, closedStream_inflate c3⟩

/-- the same stream followed by ANY bytes (a trailer, another member, a caller's data): the specification inflater still
    yields exactly the data and leaves exactly those bytes (`inflate_prefix_stable`) — compress-then-decompress does not
    depend on what comes after the stream -/
theorem C01_roundtrip_dyn_then_anything (L : DynLeaves MF Tok) {mode : Mode} (S : Sound L mode) (c : Cfg) (hw : 0 < c.window)
    (dst : Dst) (hh : dst.Healthy) (hd : dst.got = []) (ops : List Op) (hops : ∀ op ∈ ops, op.keepsOpen)
    (hok : ∀ r ∈ (run L c (WState.init L dst) ops).2, r.err = none) (after : List UInt8) :
    Container.specInflater mode ((close L c (run L c (WState.init L dst) ops).1).1.dst.bytes ++ after) =
      some (dataAfterAll [] ops (run L c (WState.init L dst) ops).2, after) := by
  have ht := run_tracks L S c hw ops [] (WState.init L dst) (tracks_init L S dst hh hd) hops hok
  exact CWriter.closedStream_exact (close_tracks L S c _ _ ht).2.2.1 after

theorem C01_empty (L : DynLeaves MF Tok) {mode : Mode} (S : Sound L mode) (c : Cfg)
    (dst : Dst) (hh : dst.Healthy) (hd : dst.got = []) :
    ∃ st rest, inflate mode [] (close L c (WState.init L dst)).1.dst.bytes = .done #[] rest st := by
  obtain ⟨_, _, c3, _⟩ := close_tracks L S c _ _ (tracks_init L S dst hh hd)
  obtain ⟨st, rest, h, _⟩ := closedStream_inflate c3
  exact ⟨st, rest, h⟩

theorem C01_roundtrip_huff {σ : Type} (L : HuffLeaf σ) {mode : Mode} (S : HSound L mode) (max : Nat)
    (dst : Dst) (hh : dst.Healthy) (hd : dst.got = []) (ops : List Op) (hops : ∀ op ∈ ops, op.keepsOpen)
    (hok : ∀ r ∈ (hRun L max (HState.init L dst) ops).2, r.err = none) :
    (hClose L (hRun L max (HState.init L dst) ops).1).2.err = none ∧
    ∃ st rest, inflate mode [] (hClose L (hRun L max (HState.init L dst) ops).1).1.dst.bytes =
      .done (dataAfterAll [] ops (hRun L max (HState.init L dst) ops).2).toArray rest st ∧
      rest.length < 8 ∧ ∀ b ∈ rest, b = false := by
  have ht := hRun_tracks L S max ops [] (HState.init L dst) ⟨rfl, hinv_init mode L.init dst hh hd⟩ hops hok
  obtain ⟨c1, _, c3, _⟩ := hClose_tracks L S _ _ ht
  exact ⟨c1, closedStream_inflate c3⟩

theorem C01_checked_call_meets_contract (window : Nat) (pre buf : List UInt8) (idx nIdx : Nat) (toks : List RTok)
    (hn : nIdx ≤ buf.length) (hc : checkGen window buf.toArray nIdx idx toks = true) :
    resolveR (pre ++ buf.take idx) toks = (buf.drop idx).take (nIdx - idx) ∧ idx ≤ nIdx ∧
    ∀ t ∈ toks, t.inWindow window :=
  checkGen_gives_gen window pre buf idx nIdx toks hn hc

theorem C01_block_frame (mode : Mode) (pos : Nat) (B : Bits) (h : Array UInt8) (st : Stats)
    (final : Bool) (o : Array UInt8) (r : Bits) (s : Stats) (hpf : blockCodesPF mode B = true)
    (hb : inflateBlock mode pos B h st = .next final o r s) (t : Bits) (st' : Stats) :
    ∃ s', inflateBlock mode pos (B ++ t) h st' = .next final o (r ++ t) s' :=
  inflateBlock_frame mode pos B h st final o r s hpf hb t st'

/-- the same without side condition: every code a block accepted by the specification declares passed `lensOK`, and
    RFC 1951's canonical code for such lengths is prefix-free (`canonical_prefixFree_of_lensOK`, Proofs/CanonicalPF.lean) -/
theorem C01_block_prefix_stable (mode : Mode) (pos : Nat) (B : Bits) (h : Array UInt8) (st : Stats)
    (final : Bool) (o : Array UInt8) (r : Bits) (s : Stats)
    (hb : inflateBlock mode pos B h st = .next final o r s) (t : Bits) (st' : Stats) :
    ∃ s', inflateBlock mode pos (B ++ t) h st' = .next final o (r ++ t) s' :=
  inflateBlock_prefix_stable mode pos B h st final o r s hb t st'

theorem C01_canonical_code_prefix_free (mode : Mode) (lens : List Nat) (h : lensOK mode lens = true) :
    PrefixFree (canonical lens) :=
  canonical_prefixFree_of_lensOK mode lens h

theorem C01_checked_block_meets_contract (mode : Mode) (pos : Nat) (carry : Bits) (out : List UInt8) (carry' : Bits)
    (final : Bool) (p h : Array UInt8) (x : List UInt8) (hc : checkEnc mode pos carry out carry' final h x = true) :
    ∃ B, IsBlock mode pos B final (p ++ h) x ∧
      (final = false → bytesToBits out ++ carry' = carry ++ B) ∧
      (final = true → carry' = [] ∧
        bytesToBits out = carry ++ B ++ List.replicate (padLen (carry ++ B).length) false) :=
  checkEnc_gives_enc_suffix mode pos carry out carry' final p h x hc

/-- blocks are local in the history: what precedes the part of the output a block can refer to does not matter -/
theorem C01_block_history_local {mode : Mode} {pos : Nat} {B : Bits} {final : Bool} {h : Array UInt8} {x : List UInt8}
    (hb : IsBlock mode pos B final h x) (p : Array UInt8) : IsBlock mode pos B final (p ++ h) x :=
  hb.extend_history p

/-- every accepted Write reports the full length on a healthy destination unless it stopped for lack of
    progress — the data the theorem speaks about is what the caller was told was accepted -/
theorem C01_data_is_what_was_accepted (D : List UInt8) (data : List UInt8) (r : OpRes) (h : r.n = data.length) :
    dataAfter D (.write data) r = D ++ data := by
  simp [dataAfter, h]

/-! Non-vacuity (sound instance `fixLeaves`, window 8): the 300-byte history of C10's example satisfies the
    hypotheses; the conclusion is computed independently on the short history. -/
def isDoneWith (r : Result) (D : List UInt8) : Bool :=
  match r with
  | .done out rest _ => out.toList == D && rest.length < 8 && rest.all (· == false)
  | _ => false

example : (close fixLeaves toyCfg exRun.1).2.err = none ∧ (close fixLeaves toyCfg exRun.1).1.dst.calls = 4 := by
  decide +kernel

/-- the closed streams below, evaluated in one declaration: the kernel builds the fixed Huffman code once for all -/
theorem exClosedStreams :
    (isDoneWith (inflate .strict [] (close fixLeaves toyCfg exShort.1).1.dst.bytes) (exData.take 17) = true ∧
      isDoneWith (inflate .strict [] (close fixLeaves toyCfg (WState.init fixLeaves healthy)).1.dst.bytes) [] = true) ∧
    isDoneWith (inflate .strict [] (hClose fixHuff exHuff.1).1.dst.bytes) (exData.take 37) = true := by
  decide +kernel

example :
    isDoneWith (inflate .strict [] (close fixLeaves toyCfg exShort.1).1.dst.bytes) (exData.take 17) = true ∧
    isDoneWith (inflate .strict [] (close fixLeaves toyCfg (WState.init fixLeaves healthy)).1.dst.bytes) [] = true :=
  exClosedStreams.1

example :
    isDoneWith (inflate .strict [] (hClose fixHuff exHuff.1).1.dst.bytes) (exData.take 37) = true :=
  exClosedStreams.2

/-! Non-vacuity of the block check: the bytes fastgo itself emits (level 1, `Write("abcabcabcabc"); Close()`, one final
    dynamic block with a back-reference; level -2, `Write("hello"); Close()`) pass `checkEnc` — evaluated by the kernel. -/
def realDyn : List UInt8 := [0x35,0xc2,0x31,0x0d,0x00,0x00,0x00,0x83,0x30,0xad,0x1b,0xfe,0x3d,0x70,0x91,0x74,0x27,0x08]
def realHuff : List UInt8 := [0x05,0xc0,0xb1,0x09,0x00,0x00,0x00,0x83,0xb0,0x6b,0x0b,0x1d,0x04,0xff,0xdf,0xcc,0x07,0x06]

example : checkEnc .strict 0 [] realDyn [] true #[] "abcabcabcabc".toUTF8.toList = true ∧
    checkEnc .strict 0 [] realHuff [] true #[] "hello".toUTF8.toList = true ∧
    checkEnc .strict 0 [] realHuff [] true #[] "hellp".toUTF8.toList = false := by
  decide +kernel

end Fastgo.Writer

#print axioms Fastgo.Writer.C01_block_frame
#print axioms Fastgo.Writer.C01_block_prefix_stable
#print axioms Fastgo.Writer.C01_canonical_code_prefix_free
#print axioms Fastgo.Writer.C01_checked_block_meets_contract
#print axioms Fastgo.Writer.C01_block_history_local
#print axioms Fastgo.Writer.C01_roundtrip_dyn
#print axioms Fastgo.Writer.C01_roundtrip_dyn_then_anything
#print axioms Fastgo.Writer.C01_empty
#print axioms Fastgo.Writer.C01_roundtrip_huff
#print axioms Fastgo.Writer.C01_checked_call_meets_contract
#print axioms Fastgo.Writer.resolveR_app
