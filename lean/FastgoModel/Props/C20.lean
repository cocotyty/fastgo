import FastgoModel.Props.Examples
/-!
# C20 — compression is effective (bounded expansion, repeats found): what is proved and what is measured

The two numeric bounds of C20 (output ≤ n + n/32 + 256; periodic input ≤ n/32 + 1200) are statements about the
QUALITY of the leaf algorithms: how close the length-limited Huffman code is to the entropy of the block, how
compactly the header run-length coder writes the code lengths, and how often the 16-bit hash table still holds
the previous occurrence. They are measured on the implementation at every acceleration level by the oracle
(adversarial distributions for expansion; all periods 1..64 for effectiveness) and NOT proved here: a proof
would need executable models of moffat.go / len_limited.go / header.go / the hash function together with an
optimality argument — `C20_partial`, see DESIGN.md.

What the control model does settle, for every input and every split over Write calls (unbounded):

* `C20_no_hidden_overhead` — after Close the destination holds exactly the bits of the blocks, in order, plus
  fewer than 8 padding bits: `8 · len(output) = Σ |block_i| + pad`, `pad < 8`. No per-Write bytes, no marker that
  is not a block, nothing buffered and lost: the output size IS the sum of what the block encoder produced;
* the blocks partition the data (C01: they decode to exactly the input), so a per-block leaf bound
  `|block| ≤ f(bytes represented)` adds up over the stream.
-/
namespace Fastgo.Writer
open Fastgo.Spec
variable {MF Tok : Type}

theorem C20_no_hidden_overhead (L : DynLeaves MF Tok) {mode : Mode} (S : Sound L mode) (c : Cfg) (hw : 0 < c.window)
    (dst : Dst) (hh : dst.Healthy) (hd : dst.got = []) (ops : List Op) (hops : ∀ op ∈ ops, op.keepsOpen)
    (hok : ∀ r ∈ (run L c (WState.init L dst) ops).2, r.err = none) :
    ∃ (n q : Nat) (E B rest : Bits),
      Chain mode n 0 E #[] ((dataAfterAll [] ops (run L c (WState.init L dst) ops).2).take q) ∧
      IsBlock mode E.length B true ((dataAfterAll [] ops (run L c (WState.init L dst) ops).2).take q).toArray
        ((dataAfterAll [] ops (run L c (WState.init L dst) ops).2).drop q) ∧
      8 * (close L c (run L c (WState.init L dst) ops).1).1.dst.bytes.length = E.length + B.length + rest.length ∧
      rest.length < 8 := by
  have ht := run_tracks L S c hw ops [] (WState.init L dst) (tracks_init L S dst hh hd) hops hok
  obtain ⟨_, _, ⟨n, q, E, B, rest, hc, hb, hbytes, hl, _⟩, _⟩ := close_tracks L S c _ _ ht
  refine ⟨n, q, E, B, rest, hc, hb, ?_, hl⟩
  rw [body_zero] at hbytes
  have := congrArg List.length hbytes
  simp only [bytesToBits_length, List.length_append] at this
  omega

/-! Non-vacuity: the 300-byte history of C10's example, closed: the output length computed, the accounting identity then
    `bytesToBits_length`. -/
def exOut : List UInt8 := (close fixLeaves toyCfg exRun.1).1.dst.bytes

example : exOut.length = 325 ∧ 8 * exOut.length = (bytesToBits exOut).length :=
  ⟨by decide +kernel, (bytesToBits_length exOut).symm⟩

end Fastgo.Writer

#print axioms Fastgo.Writer.C20_no_hidden_overhead
