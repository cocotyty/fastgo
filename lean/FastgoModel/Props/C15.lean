import FastgoModel.Proofs.ReaderProps
import FastgoModel.Reader.Example
/-!
# C15 — a failing source is reported as such and never as success or corruption

* `C15_error_is_the_sources` : the only way `step` returns a source error is Peek reporting it, and Peek only
  reports errors the source produced (`peek_spec`): the value reaches the caller unchanged — it is never
  turned into io.EOF, io.ErrUnexpectedEOF or a CorruptInputError (those come from the decoder run only:
  `stepErr_spec`), and only when every byte delivered before it has been handed to the decoder;
* `C15_sticky` : once stored and the pending output drained, every further Read returns that same error, no data,
  and changes nothing;
* prefix-correctness of what was delivered before the error is the decoder's soundness (C03).
gzip/zlib wrap this Reader and convert only io.EOF inside their header/trailer reads (C07 model); validated per
run with faults at every byte position, alone or together with data, for three error values including one that
wraps io.EOF.
-/
namespace Fastgo.Reader
variable {δ : Type}

theorem C15_error_is_the_sources (D : Decoder δ) (S : List UInt8) (r r' : RState δ) (hi : Inv S r) (e : SErr)
    (h : step D r = (r', .err (some (.src e)))) :
    (∃ id, e = .fail id) ∧ r'.fed.length = r'.gone.length + r'.bio.buf.length ∧ r'.pending = r.pending :=
  ⟨(step_source_error D S r r' hi e h).1, (step_source_error D S r r' hi e h).2.2.1, (step_source_error D S r r' hi e h).2.2.2⟩

theorem C15_decoder_errors_are_not_source_errors (o : DecOut δ) (eof : Bool) (e : SErr) :
    stepErr o eof ≠ some (.src e) := (stepErr_spec o eof).2.2.2 e

theorem C15_peek_reports_source_errors_only (n fuel : Nat) (b b1 : Bufio) (e : SErr) (f : Bool)
    (h : Bufio.peek n fuel b = .got b1 (some e) f) : b.err = some e ∨ ∃ c ∈ b.src, c.err = some e := by
  have hp := peek_spec n fuel b
  rw [h] at hp
  exact (hp.2 e rfl).2

theorem C15_sticky (D : Decoder δ) (fuel : Nat) (r : RState δ) (want : Nat) (e : RE)
    (he : r.err = some e) (hp : r.pending = []) : read D (fuel + 1) r want = (r, .data [] (some e)) :=
  read_sticky D fuel r want e he hp

/-! Non-vacuity: the source fails with error 7 after [1,2,3] (no end marker yet): the data comes first, then
    exactly that error, again and again. -/
example :
    let bio : Bufio := { size := 16, src := [{ bytes := [1, 2, 3] }, { bytes := [], err := some (.fail 7) }] }
    (readMany toyDecoder 20 (RState.init toyDecoder bio) [8, 8, 8]).2 =
      [.data [1, 2, 3] none, .data [] (some (.src (.fail 7))), .data [] (some (.src (.fail 7)))] := by
  decide

end Fastgo.Reader

#print axioms Fastgo.Reader.C15_error_is_the_sources
#print axioms Fastgo.Reader.C15_decoder_errors_are_not_source_errors
#print axioms Fastgo.Reader.C15_peek_reports_source_errors_only
#print axioms Fastgo.Reader.C15_sticky
