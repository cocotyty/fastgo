import FastgoModel.Proofs.ReaderProps
import FastgoModel.Reader.Example
/-!
# C04 — decoded output does not depend on how the compressed bytes arrive or are read  (PARTIAL)

What the control model proves, for an arbitrary `Sane` decoder, every bufio size, every chunking of the source
(one byte per read, short reads, data together with EOF) and every sequence of destination sizes:

* `C04_decoder_sees_the_stream` : in every reachable state the bytes handed to the decoder so far are a PREFIX of
  the source's byte stream `S` — in order, nothing lost, nothing duplicated, whatever the schedule;
* `C04_nothing_left_behind` : when a Read finally blocks on a silent source the decoder has been handed all of `S`.

Two schedules therefore drive the decoder with the same byte stream. That the DECODER's total output is a
function of that stream (its resumability: rollback of an incomplete symbol group, header staging, overflow
carry) is the decoder contract — validated per run (schedule families × destination sizes, boundary streams,
one byte per read) and, for complete streams, equal to the specification's output (C02).
For TRUNCATED streams the last 1–2 bytes before io.ErrUnexpectedEOF do depend on the schedule in the code
(known finding F-C04-1): the full statement of C04 is false there and is not claimed.
-/
namespace Fastgo.Reader
variable {δ : Type}

theorem C04_decoder_sees_the_stream (D : Decoder δ) (hs : D.Sane) (bio : Bufio) (fuel : Nat) (reads : List Nat) :
    (readMany D fuel (RState.init D bio) reads).1.fed <+: bio.stream :=
  fed_prefix _ _ (reachable_inv D hs bio fuel reads)

theorem C04_same_stream_same_feed (D : Decoder δ) (hs : D.Sane) (bio₁ bio₂ : Bufio) (hsame : bio₁.stream = bio₂.stream)
    (fuel₁ fuel₂ : Nat) (reads₁ reads₂ : List Nat) :
    (readMany D fuel₁ (RState.init D bio₁) reads₁).1.fed <+: bio₁.stream ∧
    (readMany D fuel₂ (RState.init D bio₂) reads₂).1.fed <+: bio₁.stream :=
  ⟨C04_decoder_sees_the_stream D hs bio₁ fuel₁ reads₁, hsame ▸ C04_decoder_sees_the_stream D hs bio₂ fuel₂ reads₂⟩

theorem C04_nothing_left_behind (D : Decoder δ) (hs : D.Sane) (S : List UInt8) (fuel : Nat)
    (r r' : RState δ) (want : Nat) (hi : Inv S r) (h : read D fuel r want = (r', .blocked)) : r'.fed = S :=
  (read_blocked D hs S fuel r r' want hi h).2.2.2.2

/-! Non-vacuity: the same toy stream delivered all at once through a 64-byte bufio.Reader and one byte at a
    time through a 16-byte one, read with different destination sizes: same bytes, same end. -/
example :
    let s1 : Bufio := { size := 64, src := [{ bytes := [1, 2, 3, 4, 5, 6, 0], err := some .eof }] }
    let s2 : Bufio := { size := 16, src := [{ bytes := [1] }, { bytes := [2] }, { bytes := [3] }, { bytes := [4] },
                                           { bytes := [5] }, { bytes := [6] }, { bytes := [0] }, { bytes := [], err := some .eof }] }
    let out := fun (rs : List ReadRes) => rs.flatMap fun r => match r with | .data bs _ => bs | _ => []
    out (readMany toyDecoder 40 (RState.init toyDecoder s1) [100, 100, 100]).2 = [1, 2, 3, 4, 5, 6] ∧
    out (readMany toyDecoder 40 (RState.init toyDecoder s2) [1, 2, 1, 2, 1, 2, 1, 2]).2 = [1, 2, 3, 4, 5, 6] := by
  decide

end Fastgo.Reader

#print axioms Fastgo.Reader.C04_decoder_sees_the_stream
#print axioms Fastgo.Reader.C04_same_stream_same_feed
#print axioms Fastgo.Reader.C04_nothing_left_behind
