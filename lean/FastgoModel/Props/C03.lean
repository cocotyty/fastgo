import FastgoModel.Props.C02
import FastgoModel.Reader.FaithfulCheck
/-!
# C03 — malformed input: no invented data, io.EOF only after a complete stream, sticky stdlib errors

Model and leaf contracts as for C02 (`Reader.Control`, `Decoder.Sane`, `Faithful`).

* `C03_no_fabrication`      — at any point of any history (also after Reset: `C03_reset_forgets`), every byte
  handed out is the byte the specification inflater produces at that position from the bytes the decoder has
  taken from THIS source (a prefix of its stream): nothing invented, nothing left over from earlier use;
* `C03_eof_only_if_complete`— io.EOF is returned only if the bytes taken begin with a complete, well-formed
  stream whose output is exactly what was handed out (= `C02_eof_complete_from_start`);
* `C03_error_kinds`         — the error of a step() that ran the decoder is CorruptInputError only if the decoder
  reported an invalid block/symbol/distance, and io.ErrUnexpectedEOF only if it ran out of input AND the source
  had reported io.EOF; a source error is never produced there (C15);
* `C03_sticky`              — after a Read returned an error, every further Read returns that same error and no
  data, and changes nothing.

`C03_partial`: not proved — termination without panic of the decoder proper on every byte string (the model is
total, the Go/assembly code is observed: recovered panics + watchdog in the oracle), that the real decoder meets
`Faithful` on malformed input (stale tables, unassigned codes: decided per run by the oracle with the permissive
reference inflater as upper bound and compress/flate as lower bound), and "a cut-short stream ends in
io.ErrUnexpectedEOF" in the direction that needs decoder progress.
-/
namespace Fastgo.Reader
open Fastgo.Spec
variable {δ : Type}

theorem C03_no_fabrication (D : Decoder δ) (hs : D.Sane) {mode : Mode} (F : Faithful D mode) (bio : Bufio) (fuel : Nat)
    (ws : List Nat) :
    delivered (readMany D fuel (RState.init D bio) ws).2 <+:
      specOut (inflate mode [] (readMany D fuel (RState.init D bio) ws).1.fed) ∧
    (readMany D fuel (RState.init D bio) ws).1.fed <+: bio.stream :=
  C02_delivery D hs F bio fuel ws

/-- after Reset the same holds for the new source alone, whatever state the Reader was in -/
theorem C03_reset_forgets (D : Decoder δ) (hs : D.Sane) {mode : Mode} (F : Faithful D mode) (old : RState δ)
    (bio : Bufio) (fuel : Nat) (ws : List Nat) :
    delivered (readMany D fuel (RState.reset D old bio) ws).2 <+:
      specOut (inflate mode [] (readMany D fuel (RState.reset D old bio) ws).1.fed) ∧
    (readMany D fuel (RState.reset D old bio) ws).1.fed <+: bio.stream := by
  rw [show RState.reset D old bio = RState.init D bio from rfl]
  exact C02_delivery D hs F bio fuel ws

theorem C03_eof_only_if_complete (D : Decoder δ) {mode : Mode} (F : Faithful D mode) (bio : Bufio) (fuel : Nat)
    (ws : List Nat) (want : Nat)
    (he : (read D fuel (readMany D fuel (RState.init D bio) ws).1 want).2.err = some .eof) :
    ∃ rest s, inflate mode [] (read D fuel (readMany D fuel (RState.init D bio) ws).1 want).1.fed =
      .done (delivered (readMany D fuel (RState.init D bio) ws).2 ++
        (read D fuel (readMany D fuel (RState.init D bio) ws).1 want).2.bytes).toArray rest s :=
  C02_eof_complete_from_start D F bio fuel ws want he

theorem C03_error_kinds (o : DecOut δ) (eof : Bool) :
    (stepErr o eof = some .corrupt → o.status = .invalid) ∧
    (stepErr o eof = some .unexpectedEOF → o.status = .needInput ∧ eof = true) ∧
    (∀ e, stepErr o eof ≠ some (.src e)) :=
  (stepErr_spec o eof).2

theorem C03_sticky (D : Decoder δ) (fuel : Nat) (r : RState δ) (want : Nat) (e : RE)
    (h : (read D fuel r want).2.err = some e) (fuel' want' : Nat) :
    read D (fuel' + 1) (read D fuel r want).1 want' = ((read D fuel r want).1, .data [] (some e)) := by
  obtain ⟨h1, h2⟩ := read_err_state D fuel r want e h
  exact read_sticky D fuel' _ want' e h1 h2

/-! ### the session check of the F correspondence
  `checkFaithful` judges one complete session of the REAL Reader (any level, chunking, Read sizes) by the specification
  inflater itself. A session that passes it has (i) delivered a prefix of the specification's output
  (`C03_checked_session_no_fabrication`), (ii) ended in io.EOF only on a complete stream, completely delivered, with the
  source exactly behind the final block (`C03_checked_session_eof`; this is also C02's completeness and C05's position
  for that session), (iii) reported CorruptInputError only when the strict specification does not accept the input and the
  input is not a cut valid stream (`C03_checked_session_corrupt`). -/
theorem C03_checked_session_no_fabrication (src delivered : List UInt8) (k : EndKind) (consumed : Nat) (cut : Bool)
    (h : checkFaithful src delivered k consumed cut = true) :
    delivered <+: (Spec.inflate .permissive [] src).out.toList :=
  checkFaithful_prefix src delivered k consumed cut h

theorem C03_checked_session_eof (src delivered : List UInt8) (consumed : Nat) (cut : Bool)
    (h : checkFaithful src delivered .eof consumed cut = true) :
    ∃ out rest st, Spec.inflate .permissive [] src = .done out rest st ∧ delivered = out.toList ∧
      consumed = (8 * src.length - rest.length + 7) / 8 :=
  checkFaithful_eof src delivered consumed cut h

theorem C03_checked_session_corrupt (src delivered : List UInt8) (consumed : Nat) (cut : Bool)
    (h : checkFaithful src delivered .corrupt consumed cut = true) :
    (Spec.inflate .strict [] src).isDone = false ∧ cut = false :=
  checkFaithful_corrupt src delivered consumed cut h

/-! Non-vacuity: the stream of C02's example cut after 9 bytes (source then reports io.EOF) read through the
    model with `batchDecoder`: no data, io.ErrUnexpectedEOF, and the same again; the same stream with its first
    byte replaced by 0x07 (reserved block type 3): CorruptInputError, twice. -/
example :
    let bio : Bufio := { size := 16, src := [{ bytes := exStream.take 9, err := some .eof }] }
    (readMany (batchDecoder .strict) 20 (RState.init (batchDecoder .strict) bio) [10, 10]).2 =
      [.data [] (some .unexpectedEOF), .data [] (some .unexpectedEOF)] :=
  batch_sessions.2.1

example :
    let bio : Bufio := { size := 16, src := [{ bytes := 7 :: exStream.drop 1, err := some .eof }] }
    (readMany (batchDecoder .strict) 20 (RState.init (batchDecoder .strict) bio) [10, 10]).2 =
      [.data [] (some .corrupt), .data [] (some .corrupt)] :=
  batch_sessions.2.2

end Fastgo.Reader

#print axioms Fastgo.Reader.C03_no_fabrication
#print axioms Fastgo.Reader.C03_reset_forgets
#print axioms Fastgo.Reader.C03_eof_only_if_complete
#print axioms Fastgo.Reader.C03_error_kinds
#print axioms Fastgo.Reader.C03_sticky
#print axioms Fastgo.Reader.C03_checked_session_no_fabrication
#print axioms Fastgo.Reader.C03_checked_session_eof
#print axioms Fastgo.Reader.C03_checked_session_corrupt
