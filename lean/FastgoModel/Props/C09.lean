import FastgoModel.Proofs.WriterAppend
import FastgoModel.Writer.Example
/-!
# C09 — compressed bytes depend only on the data and the Flush positions, not on Write sizes

Model: the chunked `Write` loop of writer.go over `Accumulate`/`Compress` of dynamic.go, exactly as coded
(copy what fits, compress when the buffer is exactly full, slide when `idx ≥ 2·window`), for ARBITRARY leaf
algorithms (match finder, block encoder — only their being functions of their arguments matters).

* `C09_write_append` : `Write (a ++ b)` reaches the same state (buffer, cursors, pending tokens, bit carry,
  match-finder state AND destination contents) and returns the same error as `Write a; Write b`;
* `C09_partition`    : any two ways of cutting the same bytes into Write calls (zero-length writes included)
  reach the same state — hence emit the same bytes, also for everything emitted later (Flush/Close act on the
  state only).

Hypothesis `0 < window` (4096 / 32768 in the code: regenerated fact). "Write goes through" (`WriteOK`) means
it returned (len, nil); a failing destination is C14's subject.
-/
namespace Fastgo.Writer
variable {MF Tok : Type}

theorem C09_write_append (L : DynLeaves MF Tok) (c : Cfg) (hW : 0 < c.window) (w : WState MF Tok) (a b : List UInt8)
    (hopen : w.err = none) (hok : WriteOK L c w a) :
    (write L c w (a ++ b)).1 = (write L c (write L c w a).1 b).1 ∧
    (write L c w (a ++ b)).2.err = (write L c (write L c w a).1 b).2.err :=
  ⟨(write_append L c hW w a b hopen hok).1, (write_append L c hW w a b hopen hok).2.1⟩

/-- writing the chunks `xs` one Write call each, every call going through, leads from `w` to `w'` -/
inductive Chunked (L : DynLeaves MF Tok) (c : Cfg) : WState MF Tok → List (List UInt8) → WState MF Tok → Prop
  | nil (w) : Chunked L c w [] w
  | cons (w x xs w') : WriteOK L c w x → Chunked L c (write L c w x).1 xs w' → Chunked L c w (x :: xs) w'

theorem chunked_eq_single (L : DynLeaves MF Tok) (c : Cfg) (hW : 0 < c.window) (w w' : WState MF Tok)
    (xs : List (List UInt8)) (hopen : w.err = none) (h : Chunked L c w xs w') :
    w' = (write L c w xs.flatten).1 := by
  induction h with
  | nil w => rw [List.flatten_nil, write_eq_loop L c w [] hopen, writeLoop_nil]
  | cons w x xs w' hok _ ih =>
    have h1 := ih (writeOK_open L c w x hopen hok)
    rw [h1, List.flatten_cons]
    exact ((write_append L c hW w x xs.flatten hopen hok).1).symm

theorem C09_partition (L : DynLeaves MF Tok) (c : Cfg) (hW : 0 < c.window) (w w1 w2 : WState MF Tok)
    (xs ys : List (List UInt8)) (hopen : w.err = none) (hsame : xs.flatten = ys.flatten)
    (h1 : Chunked L c w xs w1) (h2 : Chunked L c w ys w2) : w1 = w2 := by
  rw [chunked_eq_single L c hW w w1 xs hopen h1, chunked_eq_single L c hW w w2 ys hopen h2, hsame]

/-- equal states emit equal bytes from then on, whatever follows -/
theorem C09_later_ops (L : DynLeaves MF Tok) (c : Cfg) (w1 w2 : WState MF Tok) (h : w1 = w2) (ops : List Op) :
    (run L c w1 ops).1.dst.bytes = (run L c w2 ops).1.dst.bytes := by rw [h]

/-! Non-vacuity on the toy leaves (window 8, buffer 274 bytes): 300 bytes written as 300 / as 1+0+273+26 /
    both go through and end in the same state; the buffer was filled and compressed on the way. -/
example :
    let d : List UInt8 := List.replicate 300 5
    let w0 := WState.init toyLeaves healthy
    let a := write toyLeaves toyCfg w0 d
    let b1 := write toyLeaves toyCfg w0 (d.take 1)
    let b2 := write toyLeaves toyCfg b1.1 []
    let b3 := write toyLeaves toyCfg b2.1 ((d.drop 1).take 273)
    let b4 := write toyLeaves toyCfg b3.1 (d.drop 274)
    a.2 = { n := 300 } ∧ b4.2 = { n := 26 } ∧ a.1.dst.calls > 0 ∧ a.1.dyn.buf.length = b4.1.dyn.buf.length ∧
      a.1.dst.bytes = b4.1.dst.bytes := by
  decide +kernel

end Fastgo.Writer

#print axioms Fastgo.Writer.C09_write_append
#print axioms Fastgo.Writer.C09_partition
#print axioms Fastgo.Writer.C09_later_ops
