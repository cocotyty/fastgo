import FastgoModel.Proofs.WriterControl
import FastgoModel.Writer.Example
import FastgoModel.Proofs.WriterWrap
/-!
# C16 — any call sequence is safe; Close is idempotent

The Writer control model refines the three-state protocol automaton of compress/flate
(`opened`, `closed`, `failed`; `absState` maps a Writer to its protocol state):

* `C16_protocol_step` : the error returned by every call, and the next protocol state, are those of the
  automaton (an `opened` Writer either stays usable or fails with the destination's error; nothing else);
* `C16_after_close`   : on a closed Writer every further Close returns nil, every Write/Flush returns the
  "closed" error, and none of them changes the Writer or touches the destination (emits nothing);
* `C16_total`         : `run` is a total function — every call sequence has a result (no panic in the model:
  there is no partial operation; the nil dereference of the unrepaired level -2 Close is not representable).

That the standard library's Writer follows the same automaton is validated side by side by the harness
(exhaustive sequences up to a bounded length). The clause "bytes up to the first Close are a complete
stream" is C01's theorem.
-/
namespace Fastgo.Writer
variable {MF Tok : Type}

/-- the protocol automaton: possible (answer is error?, next state) of an operation in a state -/
def protoOK (st : PState) (op : Op) (err : Option Err) (st' : PState) : Prop :=
  match op with
  | .reset _ => err = none ∧ st' = .opened
  | .close =>
    match st with
    | .opened => (err = none ∧ st' = .closed) ∨ (err = some .injected ∧ st' = .failed)
    | .closed => err = none ∧ st' = .closed
    | .failed => err = some .injected ∧ st' = .failed
  | _ =>
    match st with
    | .opened => (err = none ∧ st' = .opened) ∨ (err = some .injected ∧ st' = .failed)
    | .closed => err = some .closed ∧ st' = .closed
    | .failed => err = some .injected ∧ st' = .failed

theorem C16_protocol_step (L : DynLeaves MF Tok) (c : Cfg) (w : WState MF Tok) (op : Op) :
    protoOK (absState w) op (step L c w op).2.err (absState (step L c w op).1) := by
  have hs : absState w = _ := absState.eq_1 w
  cases hw : w.err with
  | none =>
    rw [hs, hw]
    cases op with
    | reset d => exact ⟨rfl, rfl⟩
    | write data => exact (write_open L c w data hw).proto
    | flush => exact (flush_open L c w hw).proto
    | close => exact (close_open L c w hw).proto
  | some e =>
    cases op with
    | reset d => exact ⟨rfl, rfl⟩
    | _ =>
      cases e with
      | injected => rw [step_failed L c w hw _ rfl, hs, hw]; exact ⟨rfl, rfl⟩
      | closed => rw [step_closed L c w hw _ rfl, hs, hw]; exact ⟨rfl, rfl⟩

theorem C16_after_close (L : DynLeaves MF Tok) (c : Cfg) (w : WState MF Tok) (hclosed : w.err = some .closed)
    (ops : List Op) (hnr : ∀ op ∈ ops, op.isReset = false) :
    (run L c w ops).1 = w ∧ (run L c w ops).1.dst.bytes = w.dst.bytes ∧ (run L c w ops).2 = ops.map closedAnswer := by
  rw [run_closed L c w hclosed ops hnr]
  exact ⟨rfl, rfl, rfl⟩

/-- a successful Close closes -/
theorem C16_close_closes (L : DynLeaves MF Tok) (c : Cfg) (w : WState MF Tok) (hopen : w.err = none)
    (hok : (close L c w).2.err = none) : (close L c w).1.err = some .closed :=
  ((close_open L c w hopen).ok hok).1

theorem C16_total (L : DynLeaves MF Tok) (c : Cfg) (w : WState MF Tok) (ops : List Op) :
    ((run L c w ops).2).length = ops.length := by
  induction ops generalizing w with
  | nil => rfl
  | cons op ops ih => simp [run, ih]

/-! Non-vacuity: Write, Close, Close, Write, Flush, Close on the toy leaves — the second Close returns
    nil and emits nothing, Write and Flush after Close fail, the destination is untouched after the
    first Close. -/
example :
    let ops := [Op.write [1, 2, 3, 4, 5], Op.close, Op.close, Op.write [9], Op.flush, Op.close]
    let r1 := run toyLeaves toyCfg (WState.init toyLeaves healthy) (ops.take 2)
    let r := run toyLeaves toyCfg (WState.init toyLeaves healthy) ops
    r.2.map (·.err) = [none, none, none, some .closed, some .closed, none] ∧ r.1.dst.bytes = r1.1.dst.bytes := by
  decide

/-- container Writers, any inner Writer: after a successful Close a further Close (gzip: also Flush, as in
    compress/gzip) returns nil and changes nothing -/
theorem C16_gzip_closed_idempotent {ι : Type} (O : CWriter.InnerOps ι) (z : CWriter.GW ι) (he : z.err = none)
    (hc : z.closed = true) : CWriter.gClose O z = (z, {}) ∧ CWriter.gFlush O z = (z, {}) := by
  simp only [CWriter.gClose, CWriter.gFlush, he, hc, if_true, and_self]

theorem C16_zlib_closed_idempotent {ι : Type} (O : CWriter.InnerOps ι) (z : CWriter.ZW ι) (he : z.err = none)
    (hc : z.closed = true) (hw : z.wroteHeader = true) : CWriter.zClose O z = (z, {}) := by
  unfold CWriter.zClose CWriter.zClose1
  rw [CWriter.zHeader_noop O z hw, he, if_pos hc]

end Fastgo.Writer

#print axioms Fastgo.Writer.C16_protocol_step
#print axioms Fastgo.Writer.C16_after_close
#print axioms Fastgo.Writer.C16_close_closes
#print axioms Fastgo.Writer.C16_total
#print axioms Fastgo.Writer.C16_gzip_closed_idempotent
#print axioms Fastgo.Writer.C16_zlib_closed_idempotent
