import FastgoModel.Proofs.ReaderDelivery
import FastgoModel.Proofs.FaithfulInstance
import FastgoModel.Props.Examples
import FastgoModel.Props.C05
/-!
# C02 — the Reader decodes every valid stream exactly, whatever destination sizes Read is given

Model: the control flow of reader.go (`Reader.Control`: Read / step / input acquisition / discard accounting /
error bookkeeping) over the bufio model, for an ARBITRARY decoder proper (inflate.go, header.go, huffcode.go,
decode*.go/.s) that meets two leaf contracts:

* `Decoder.Sane`  — it takes no more than it is given (bookkeeping);
* `Faithful`      — relative to the specification inflater `Spec.inflate` (RFC 1951 transcription, validated
  against compress/flate by the `I` correspondence): what it has produced so far is a prefix of what the
  specification produces from the bytes it has taken, and it reports "stream ended" only when those bytes begin
  with a complete stream whose whole output it has produced.

Theorems (unbounded: any source chunking, any bufio size, any sequence of Read sizes including 0 and 1):

* `C02_delivery`      — everything Read has handed out, concatenated in call order, is a prefix of the
  specification output for the bytes the decoder has taken, and those bytes are a prefix of the source stream:
  no byte is lost, duplicated or reordered by the history-buffer hand-over between step() and Read;
* `C02_eof_complete`  — when a Read returns io.EOF, what has been handed out in total is EXACTLY the output
  of a complete stream (`inflate = done`), for any destination sizes.

`C02_partial`: not proved — (i) that the real decoder meets `Faithful` (its tables, loops and assembly; decided
per run by the oracle against compress/flate and the reference inflater, and by the `R` correspondence for the
control flow around it), (ii) progress: that a valid stream is decoded to the END (never a spurious error, never
a stall) — a property of the decoder proper; both are decided by the C02 oracle at every acceleration level.
-/
namespace Fastgo.Reader
open Fastgo.Spec
variable {δ : Type}

theorem C02_delivery (D : Decoder δ) (hs : D.Sane) {mode : Mode} (F : Faithful D mode) (bio : Bufio) (fuel : Nat)
    (ws : List Nat) :
    delivered (readMany D fuel (RState.init D bio) ws).2 <+:
      specOut (inflate mode [] (readMany D fuel (RState.init D bio) ws).1.fed) ∧
    (readMany D fuel (RState.init D bio) ws).1.fed <+: bio.stream := by
  have hd := readMany_deliv F fuel (RState.init D bio) ws [] (deliv_init F bio)
  refine ⟨?_, fed_prefix _ _ (reachable_inv D hs bio fuel ws)⟩
  have hp := F.pre _ _ _ _ hd.rel
  rw [List.nil_append] at hp
  exact (List.prefix_append _ _).trans hp

theorem C02_eof_complete (D : Decoder δ) {mode : Mode} (F : Faithful D mode) (fuel : Nat) (r : RState δ) (want : Nat)
    (given : List UInt8) (hd : Deliv F given r) (he : (read D fuel r want).2.err = some .eof) :
    ∃ rest s, inflate mode [] (read D fuel r want).1.fed =
      .done (given ++ (read D fuel r want).2.bytes).toArray rest s := by
  obtain ⟨hd', hfin⟩ := read_deliv F fuel r want given hd
  obtain ⟨hp, hf⟩ := hfin he
  have hR := hd'.rel
  rw [hp, List.append_nil, hd'.finEnd hf] at hR
  exact F.fin _ _ _ hR

/-- the same, from NewReader through any earlier Reads -/
theorem C02_eof_complete_from_start (D : Decoder δ) {mode : Mode} (F : Faithful D mode) (bio : Bufio) (fuel : Nat)
    (ws : List Nat) (want : Nat)
    (he : (read D fuel (readMany D fuel (RState.init D bio) ws).1 want).2.err = some .eof) :
    ∃ rest s, inflate mode [] (read D fuel (readMany D fuel (RState.init D bio) ws).1 want).1.fed =
      .done (delivered (readMany D fuel (RState.init D bio) ws).2 ++
        (read D fuel (readMany D fuel (RState.init D bio) ws).1 want).2.bytes).toArray rest s := by
  have hd := readMany_deliv F fuel (RState.init D bio) ws [] (deliv_init F bio)
  rw [List.nil_append] at hd
  exact C02_eof_complete D F fuel _ want _ hd he

/-! Non-vacuity: the Reader control model with the complete instance `batchDecoder` (Sane and Faithful), reading
    the DEFLATE stream that the Writer model with the sound leaves `fixLeaves` emitted for 17 bytes (Write 12,
    Flush, Write 5, Close) from a source that delivers it in chunks of 5, 1 and the rest, with destination sizes
    3, 1, 100, 100: the data comes out in pieces 3 + 1 + 13, then io.EOF. -/
def exStream : List UInt8 := (Writer.close Writer.fixLeaves Writer.toyCfg Writer.exShort.1).1.dst.bytes
def exBio : Bufio :=
  { size := 16, src := [{ bytes := exStream.take 5 }, { bytes := (exStream.drop 5).take 1 },
                         { bytes := exStream.drop 6, err := some .eof }] }

/-- The sessions of the examples here and under C03 (the stream as it is, cut after 9 bytes, and with its first byte
    replaced by 0x07), evaluated together: nearly all of the work is running the Writer that produces `exStream` and
    expanding the fixed Huffman code, and within one evaluation the kernel does that once. -/
theorem batch_sessions :
    (readMany (batchDecoder .strict) 20 (RState.init (batchDecoder .strict) exBio) [3, 1, 100, 100]).2 =
      [.data (Writer.exData.take 3) none, .data ((Writer.exData.drop 3).take 1) none,
       .data ((Writer.exData.drop 4).take 13) none, .data [] (some .eof)] ∧
    (readMany (batchDecoder .strict) 20 (RState.init (batchDecoder .strict)
      { size := 16, src := [{ bytes := exStream.take 9, err := some .eof }] }) [10, 10]).2 =
      [.data [] (some .unexpectedEOF), .data [] (some .unexpectedEOF)] ∧
    (readMany (batchDecoder .strict) 20 (RState.init (batchDecoder .strict)
      { size := 16, src := [{ bytes := 7 :: exStream.drop 1, err := some .eof }] }) [10, 10]).2 =
      [.data [] (some .corrupt), .data [] (some .corrupt)] := by
  decide +kernel

example :
    let r := readMany (batchDecoder .strict) 20 (RState.init (batchDecoder .strict) exBio) [3, 1, 100, 100]
    r.2 = [.data (Writer.exData.take 3) none, .data ((Writer.exData.drop 3).take 1) none,
           .data ((Writer.exData.drop 4).take 13) none, .data [] (some .eof)] :=
  batch_sessions.1

/-- **a checked session is complete**: when the source holds a valid stream (the specification decodes it to the end)
    followed by anything, a session of the REAL Reader that passes the F check `checkFaithful` with io.EOF has delivered
    exactly the stream's data, no more and no less — whatever the chunking, buffer size and Read sizes of that session were
    (they do not enter the check). -/
theorem C02_checked_session_complete (stream suffix delivered : List UInt8) (consumed : Nat) (cut : Bool)
    (out : Array UInt8) (rest : Spec.Bits) (st : Spec.Stats)
    (hs : Spec.inflate .permissive [] stream = .done out rest st) (hr : rest.length < 8)
    (hc : checkFaithful (stream ++ suffix) delivered .eof consumed cut = true) :
    delivered = out.toList :=
  (C05_checked_session_position stream suffix delivered consumed cut out rest st hs hr hc).1

end Fastgo.Reader

#print axioms Fastgo.Reader.C02_checked_session_complete
#print axioms Fastgo.Reader.C02_delivery
#print axioms Fastgo.Reader.C02_eof_complete
#print axioms Fastgo.Reader.C02_eof_complete_from_start
#print axioms Fastgo.Reader.batch_sane
#print axioms Fastgo.Reader.batchFaithful
