import FastgoModel.Proofs.WriterControl
import FastgoModel.Writer.Example
import FastgoModel.Proofs.WriterWrap
/-!
# C14 — a failing destination is reported, sticks, and never leads to a bad state

Model: `Fastgo.Writer` (writer.go, dynamic.go control flow; leaves abstract). The destination is an
arbitrary failure pattern `fail : Nat → Bool` over its call index — persistent, one-shot, anything.

* `C14_reported`  : an operation that returns nil made only successful destination calls
                    (contrapositive: if any destination call made during the operation fails, the operation
                    returns the error);
* `C14_sticky`    : once an operation has failed, every later Write/Flush/Close (until Reset) returns the
                    error, leaves the whole Writer state unchanged and performs NO destination call;
* `C14_failure_recorded` : a failing operation on an open Writer leaves it in the failed state.

The converse clause of the property ("if every call returned nil the destination holds a complete valid
stream") is C01/C16 (`first-close-stream`) and is not restated here. Memory safety of the unsafe stores is
outside the model (observed by the harness: recovered panics / crashes).
-/
namespace Fastgo.Writer
variable {MF Tok : Type}

theorem C14_reported (L : DynLeaves MF Tok) (c : Cfg) (w : WState MF Tok) (op : Op) (hop : op.isReset = false)
    (hok : (step L c w op).2.err = none) : NoFail w.dst (step L c w op).1.dst := by
  cases hw : w.err with
  | none =>
    obtain ⟨e, h⟩ := step_open L c w hw op hop
    exact (h.ok hok).2
  | some e =>
    cases e with
    | injected => rw [step_failed L c w hw op hop]; exact .refl _
    | closed => rw [step_closed L c w hw op hop]; exact .refl _

theorem C14_failure_recorded (L : DynLeaves MF Tok) (c : Cfg) (w : WState MF Tok) (op : Op)
    (hopen : w.err = none) (hop : op.isReset = false) (hfail : (step L c w op).2.err ≠ none) :
    (step L c w op).2.err = some .injected ∧ absState (step L c w op).1 = .failed := by
  obtain ⟨e, h⟩ := step_open L c w hopen op hop
  exact h.proto.resolve_left fun h => hfail h.1

theorem C14_sticky (L : DynLeaves MF Tok) (c : Cfg) (w : WState MF Tok) (hfailed : w.err = some .injected)
    (ops : List Op) (hnr : ∀ op ∈ ops, op.isReset = false) :
    (run L c w ops).1 = w ∧ (run L c w ops).1.dst.calls = w.dst.calls ∧
    ∀ r ∈ (run L c w ops).2, r.err = some .injected := by
  rw [run_failed L c w hfailed ops hnr]
  refine ⟨rfl, rfl, ?_⟩
  intro r hr
  simp only [List.mem_map] at hr
  obtain ⟨_, _, rfl⟩ := hr
  rfl

/-- after Reset the Writer is open again -/
theorem C14_reset_clears (L : DynLeaves MF Tok) (w : WState MF Tok) (dst : Dst) : (reset L w dst).err = none := rfl

/-! Non-vacuity: on the toy leaves, 30 bytes then Flush with a destination that fails at its 2nd call:
    Flush reports the error, the later Write and Close report it too, and the destination saw 2 calls. -/
example :
    let ops := [Op.write (List.replicate 30 7), Op.flush, Op.write [1, 2, 3], Op.close]
    let r := run toyLeaves toyCfg (WState.init toyLeaves (failAt 1)) ops
    r.2.map (·.err) = [none, some .injected, some .injected, some .injected] ∧ r.1.dst.calls = 2 := by
  decide

/-- the container Writers (control models `Container/WriterWrap.lean`, tied by ZW / GW), for ANY inner Writer: once
    an error is stored every call returns it, leaves the state and therefore the destination untouched. For
    zlib the header step runs before the error check, so the statement needs the invariant "a stored error
    implies the header step has been taken", which every operation establishes (`C14_zlib_invariant`). -/
theorem C14_gzip_sticky {ι : Type} (O : CWriter.InnerOps ι) (z : CWriter.GW ι) (e : Err) (he : z.err = some e) :
    (∀ p, CWriter.gWrite O z p = (z, { n := 0, err := some e })) ∧ CWriter.gFlush O z = (z, { err := some e }) ∧
    CWriter.gClose O z = (z, { err := some e }) := by
  simp only [CWriter.gWrite, CWriter.gFlush, CWriter.gClose, he, implies_true, and_self]

theorem C14_zlib_sticky {ι : Type} (O : CWriter.InnerOps ι) (z : CWriter.ZW ι) (e : Err) (he : z.err = some e)
    (hi : CWriter.ZErrInv z) :
    (∀ p, CWriter.zWrite O z p = (z, { n := 0, err := some e })) ∧ CWriter.zFlush O z = (z, { err := some e }) ∧
    CWriter.zClose O z = (z, { err := some e }) := by
  have hw := CWriter.zHeader_noop O z (hi (by rw [he]; nofun))
  unfold CWriter.zWrite CWriter.zFlush CWriter.zClose CWriter.zWrite1 CWriter.zFlush1 CWriter.zClose1
  rw [hw, he]
  exact ⟨fun _ => rfl, rfl, rfl⟩

theorem C14_zlib_invariant {ι : Type} (O : CWriter.InnerOps ι) (z : CWriter.ZW ι) (op : Op) :
    CWriter.ZErrInv (CWriter.zStep O z op).1 := by
  have hw := (CWriter.zHeader_frame O z).2
  cases op with
  | write p => exact fun _ => (CWriter.zWrite1_frame O _ p).2.trans hw
  | flush => exact fun _ => (CWriter.zFlush1_frame O _).2.trans hw
  | close => exact fun _ => (CWriter.zClose1_frame O _).2.trans hw
  | reset d => exact fun h => absurd rfl h

end Fastgo.Writer

#print axioms Fastgo.Writer.C14_gzip_sticky
#print axioms Fastgo.Writer.C14_zlib_sticky
#print axioms Fastgo.Writer.C14_zlib_invariant
#print axioms Fastgo.Writer.C14_reported
#print axioms Fastgo.Writer.C14_failure_recorded
#print axioms Fastgo.Writer.C14_sticky
#print axioms Fastgo.Writer.C14_reset_clears
