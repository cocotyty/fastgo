import FastgoModel.Proofs.DistTable
import FastgoModel.Gen.Facts
import FastgoModel.Proofs.TokenCheck
/-!
# C19 — the 4 KiB-window writer never refers back more than 4096 bytes

The chain from constructor to emitted distance, each link tied to the code:

* `C19_constructor_windows` (regenerated fact): `NewWriterwWith4KWindow` builds every dynamic compressor with
  window `4 * 1024`, `NewWriter` with `32 * 1024`; `buildLZ77` stores `windowLevel = log2(window)`; `generate`
  passes `1 << c.windowLevel` to the Go match finder and picks the 4k assembly variant exactly when
  `c.windowLevel == 12`;
* `C19_code_shape` (regenerated fact): the Go match finder computes the candidate distance as
  `uint32(uint16(relative+offset)-lookup) & 0xffff` and accepts it under `uint32(dist-1) < uint32(historySize)`;
* `C19_accept_bounds` (theorem): in uint32 arithmetic that test accepts exactly `1 ≤ dist ≤ historySize`
  (for the 16-bit candidate, including the wrap of `dist-1` at 0): so a token is only ever built from a
  distance within the window — also after positions have wrapped at 64 KiB, since the candidate is 16-bit and the
  bytes are compared at `offset - dist`;
* `C19_emitted_distance` (theorem): the (symbol, extra) pair `getDistSymbol`
  emits for a distance 1..32768 is decoded by RFC 1951 to that same distance.
  Hence every distance a conforming inflater reconstructs from a Go-matched token is ≤ the window.

* `C19_checked_call` (theorem): a match-finder call that passes the executable check `Writer.checkGen` (run by
  the `G` correspondence on recorded calls of the Go AND the assembly match finders, at every acceleration level
  the host can execute, with the constructor's window) emitted only matches with `1 ≤ dist ≤ window`,
  `3 ≤ len ≤ 258`, whose bytes are in the buffer it was given — so the window bound is checked at the source,
  call by call, not only through the decoded output.

The assembly match finders (acceleration level ≥ 1) have no Lean model: beyond `C19_checked_call` on the recorded
calls they sit behind the same contract as an ASSUMPTION validated on every run: the reference inflater reports the maximum distance of every output (window-edge families: repeats at
W-2..W+2, 64 KiB aliasing, Flush/Reset histories) at every level the host can execute.
-/
namespace Fastgo.Props
open Fastgo.Spec

/-- the window test of lz77.go in uint32 arithmetic: uint32(dist-1) < uint32(historySize) -/
def windowTest (dist W : Nat) : Bool := decide ((dist + 2 ^ 32 - 1) % 2 ^ 32 < W)

/-- for a 16-bit candidate the wrap of `dist-1` at 0 lands above every window -/
theorem windowTest_iff (dist W : Nat) (hd : dist < 65536) (hW : W ≤ 32768) :
    windowTest dist W = true ↔ 1 ≤ dist ∧ dist ≤ W := by
  unfold windowTest; rw [decide_eq_true_eq]; omega

theorem C19_accept_bounds (dist W : Nat) (hd : dist < 65536) (hW : W ≤ 32768) (h : windowTest dist W = true) :
    1 ≤ dist ∧ dist ≤ W := (windowTest_iff dist W hd hW).mp h

theorem C19_reject_outside (dist W : Nat) (hd : dist < 65536) (hW : 0 < W) (hW2 : W ≤ 32768) (h : dist = 0 ∨ W < dist) :
    windowTest dist W = false :=
  Bool.eq_false_iff.mpr fun ht => by have := (windowTest_iff dist W hd hW2).mp ht; omega

theorem C19_checked_call (window : Nat) (buf : Array UInt8) (stop : Nat) (hs : stop ≤ buf.size)
    (toks : List Fastgo.Writer.RTok) (pos : Nat) (h : Fastgo.Writer.checkGen window buf stop pos toks = true) :
    ∀ t ∈ toks, t.inWindow window :=
  (Fastgo.Writer.checkGen_sound window buf stop hs toks pos (buf.extract 0 pos)
    (by simp [Array.toList_extract]) h).2.2

theorem C19_emitted_distance (d : Nat) (h1 : 1 ≤ d) (h2 : d ≤ 32768) :
    (getDistSymbol d).1 < 30 ∧ distBase.getD (getDistSymbol d).1 0 + (getDistSymbol d).2 = d ∧
    (getDistSymbol d).2 < 2 ^ distExtra.getD (getDistSymbol d).1 0 :=
  getDistSymbol_decodes d h1 h2

/-- the whole chain for the Go match finder: an accepted candidate is emitted as a distance ≤ W -/
theorem C19_window (dist W : Nat) (hd : dist < 65536) (hW : W ≤ 32768) (h : windowTest dist W = true) :
    distBase.getD (getDistSymbol dist).1 0 + (getDistSymbol dist).2 ≤ W := by
  obtain ⟨h1, h2⟩ := C19_accept_bounds dist W hd hW h
  rw [(C19_emitted_distance dist h1 (by omega)).2.1]
  exact h2

def fact (f k : String) : List String :=
  (Fastgo.Gen.codeFacts.filter fun x => x.1 = f ∧ x.2.1 = k).map (·.2.2.1)

theorem C19_code_shape :
    fact "lz77" "dist" = ["uint32(uint16(relative+offset)-lookup) & 0xffff"] ∧
    fact "lz77" "windowTest" = ["uint32(dist-1) < uint32(historySize)"] ∧
    fact "lz77" "prev" = ["offset - int(dist)"] := by decide +kernel

theorem C19_constructor_windows :
    fact "NewWriterwWith4KWindow" "window" = ["4 * 1024", "4 * 1024"] ∧
    fact "NewWriter" "window" = ["32 * 1024"] ∧
    fact "buildLZ77" "ctx" = ["level1context{windowLevel: bits.TrailingZeros(uint(windowSize))}",
      "level2context{windowLevel: bits.TrailingZeros(uint(windowSize))}",
      "level2context{windowLevel: bits.TrailingZeros(uint(windowSize))}"] ∧
    fact "*level1context.generate" "windowSwitch" = ["c.windowLevel == 12"] ∧
    fact "*level2context.generate" "windowSwitch" = ["c.windowLevel == 12"] ∧
    ((Fastgo.Gen.codeFacts.filter fun x => x.2.1 = "calls" ∧ x.2.2.1 = "lz77").all fun x => x.2.2.2 = "1 << c.windowLevel") = true ∧
    fact "*level1context.generate" "calls" = ["lz77", "lz77Asm4kL12V1", "lz77Asm32kL12V1", "lz77"] ∧
    fact "*level2context.generate" "calls" = ["lz77", "lz77Asm4kL15V1", "lz77Asm32kL15V1", "lz77"] := by decide +kernel

/-! Non-vacuity: distances at the window edge. -/
example : windowTest 4096 4096 = true ∧ windowTest 4097 4096 = false ∧ windowTest 0 4096 = false ∧
    windowTest 32768 32768 = true ∧ windowTest 32769 32768 = false ∧ windowTest 1 4096 = true := by decide +kernel

end Fastgo.Props

#print axioms Fastgo.Props.C19_accept_bounds
#print axioms Fastgo.Props.C19_reject_outside
#print axioms Fastgo.Props.C19_emitted_distance
#print axioms Fastgo.Props.C19_window
#print axioms Fastgo.Props.C19_code_shape
#print axioms Fastgo.Props.C19_constructor_windows
#print axioms Fastgo.Props.C19_checked_call
