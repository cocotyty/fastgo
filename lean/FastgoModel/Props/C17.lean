import FastgoModel.Gen.Facts
import FastgoModel.Writer.Control
/-!
# C17 — separate Writers and Readers do not interfere when used concurrently  (PARTIAL by nature)

What a Lean model can carry: instances are state machines over their OWN state; the only thing instances of
the library share is package-level state. So non-interference has two parts:

* `C17_product_noninterference` (theorem, any two machines): in the product of two independent state machines,
  whatever the interleaving of their operations, each component ends in the state — and produces the outputs — of
  its solo run. (The Writer and Reader models are such machines: `step` takes and returns the instance state only.)
* `C17_no_shared_mutable_state` (fact theorem, re-checked against /repo on every run): the REGENERATED list of
  package-level variables of the library contains only read-only tables, error values, scalars, function values
  and the acceleration level, all assigned at package initialisation; there is NO statement outside `init` that
  assigns, increments, takes the address of, slices or calls a method on a package-level variable, and no
  assembly instruction stores to a global symbol.

Not modelled (said plainly): the Go memory model and the assembly. Data-race freedom proper is corroborated by
the harness (the same workloads concurrently under GOMAXPROCS 1..16, also in a `-race` build), not proved.
-/
namespace Fastgo.Props

structure Machine (S O R : Type) where
  step : S → O → S × R

def Machine.run {S O R} (m : Machine S O R) (s : S) : List O → S × List R
  | [] => (s, [])
  | o :: os =>
    let (s1, r) := m.step s o
    let (s2, rs) := m.run s1 os
    (s2, r :: rs)

/-- run an interleaving of operations of two machines on the pair of their states -/
def runPair {S₁ O₁ R₁ S₂ O₂ R₂} (m₁ : Machine S₁ O₁ R₁) (m₂ : Machine S₂ O₂ R₂) (s₁ : S₁) (s₂ : S₂) :
    List (Sum O₁ O₂) → (S₁ × List R₁) × (S₂ × List R₂)
  | [] => ((s₁, []), (s₂, []))
  | .inl o :: rest =>
    let (s₁', r) := m₁.step s₁ o
    let ((t₁, rs₁), p₂) := runPair m₁ m₂ s₁' s₂ rest
    ((t₁, r :: rs₁), p₂)
  | .inr o :: rest =>
    let (s₂', r) := m₂.step s₂ o
    let (p₁, (t₂, rs₂)) := runPair m₁ m₂ s₁ s₂' rest
    (p₁, (t₂, r :: rs₂))

def lefts {α β} : List (Sum α β) → List α
  | [] => []
  | .inl a :: r => a :: lefts r
  | .inr _ :: r => lefts r

def rights {α β} : List (Sum α β) → List β
  | [] => []
  | .inl _ :: r => rights r
  | .inr b :: r => b :: rights r

theorem C17_product_noninterference {S₁ O₁ R₁ S₂ O₂ R₂} (m₁ : Machine S₁ O₁ R₁) (m₂ : Machine S₂ O₂ R₂)
    (s₁ : S₁) (s₂ : S₂) (ops : List (Sum O₁ O₂)) :
    runPair m₁ m₂ s₁ s₂ ops = (m₁.run s₁ (lefts ops), m₂.run s₂ (rights ops)) := by
  induction ops generalizing s₁ s₂ with
  | nil => rfl
  | cons o rest ih =>
    cases o with
    | inl a => simp [runPair, lefts, rights, Machine.run, ih]
    | inr b => simp [runPair, lefts, rights, Machine.run, ih]

/-- the Writer model is such a machine -/
def writerMachine {MF Tok} (L : Fastgo.Writer.DynLeaves MF Tok) (c : Fastgo.Writer.Cfg) :
    Machine (Fastgo.Writer.WState MF Tok) Fastgo.Writer.Op Fastgo.Writer.OpRes := ⟨Fastgo.Writer.step L c⟩

def allowedClass (c : String) : Bool :=
  c = "table" || c = "error" || c = "scalar" || c = "func" || c = "call:cpuArchLevel" ||
  c = "alias:flate.NewReaderDict" || c = "alias:binary.LittleEndian"

theorem C17_no_shared_mutable_state :
    Fastgo.Gen.globalWrites = [] ∧ Fastgo.Gen.asmGlobalStores = [] ∧
    (Fastgo.Gen.globals.all fun g => allowedClass g.2.2.1) = true := by
  decide +kernel

/-- non-vacuity: the fact list is not empty and contains the tables the property names -/
example : Fastgo.Gen.globals.length ≥ 10 ∧
    (Fastgo.Gen.globals.any fun g => g.2.1 = "staticLitHuffCode") = true ∧
    (Fastgo.Gen.globals.any fun g => g.2.1 = "ArchLevel") = true := by decide +kernel

end Fastgo.Props

#print axioms Fastgo.Props.C17_product_noninterference
#print axioms Fastgo.Props.C17_no_shared_mutable_state
