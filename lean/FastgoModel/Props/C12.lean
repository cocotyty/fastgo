import FastgoModel.Proofs.WriterControl
import FastgoModel.Writer.Example
import FastgoModel.Gen.Facts
/-!
# C12 — Writer.Reset makes a used Writer indistinguishable from a new one

`reset` is modelled field by field as writer.go / dynamic.go assign them (err, destination, processed,
idx, end, tokens, bit buffer, match-finder state through `lz77.reset()`). Under the leaf contract
`mfReset m = mfInit` (the hash table and the histogram are zeroed — tied to the code by the regenerated
fact `Gen.resetAssigns` and by the fresh-versus-reset byte comparison of the harness):

* `C12_reset_state` : for EVERY state `w` (hence every reachable one, whatever history led to it — unflushed
  data, Flush, Close, a failed destination) `reset w dst` IS the initial state on `dst`;
* `C12_reset_fresh` : therefore every later history gives identical results and identical emitted bytes.

Buffer contents beyond `end`, the 8 KiB output scratch, the header scratch and the code-length generators
are not part of the model state: they are dead scratch (never read before written, Appendix B of DESIGN.md).
-/
namespace Fastgo.Writer
variable {MF Tok : Type}

theorem C12_reset_state (L : DynLeaves MF Tok) (hreset : ∀ m, L.mfReset m = L.mfInit)
    (w : WState MF Tok) (dst : Dst) : reset L w dst = WState.init L dst := by
  simp [reset, WState.init, Dyn.init, hreset]

theorem C12_reset_fresh (L : DynLeaves MF Tok) (c : Cfg) (hreset : ∀ m, L.mfReset m = L.mfInit)
    (w : WState MF Tok) (dst : Dst) (h2 : List Op) :
    run L c (reset L w dst) h2 = run L c (WState.init L dst) h2 := by
  rw [C12_reset_state L hreset w dst]

/-- the same, phrased over whole histories: h1, Reset, h2 versus h2 on a new Writer -/
theorem C12_history (L : DynLeaves MF Tok) (c : Cfg) (hreset : ∀ m, L.mfReset m = L.mfInit)
    (dst0 dst : Dst) (h1 h2 : List Op) :
    run L c (reset L (run L c (WState.init L dst0) h1).1 dst) h2 = run L c (WState.init L dst) h2 :=
  C12_reset_fresh L c hreset _ dst h2

/-! ### the tie of the Reset model to the code: regenerated facts

`Gen.resetAssigns` lists, for every Reset/reset method of the working tree, the receiver fields it assigns and
the nested resets it calls. The model's `reset` clears err, destination, processed, idx, end (= buf), tokens,
the bit buffer and the match-finder state: the code must assign (at least) the same. -/

def assignedBy (pkg fn : String) : List String :=
  ((Fastgo.Gen.resetAssigns.find? fun r => r.1 = pkg ∧ r.2.1 = fn).map (·.2.2)).getD []

theorem C12_reset_fields_complete :
    (["err"].all (assignedBy "compress/flate/internal/deflate" "*Writer.Reset").contains) = true ∧
    (["w", "processed", "idx", "end", "tokens", "buf.reset()", "lz77.reset()"].all
      (assignedBy "compress/flate/internal/deflate" "*dynCompressor.Reset").contains) = true ∧
    (["idx", "bits", "bitLen"].all (assignedBy "compress/flate/internal/deflate" "*BitBuf.reset").contains) = true ∧
    (["table[]", "hist.reset()"].all (assignedBy "compress/flate/internal/deflate" "*level1context.reset").contains) = true ∧
    (["table[]", "hist.reset()"].all (assignedBy "compress/flate/internal/deflate" "*level2context.reset").contains) = true ∧
    (["w", "offset", "buf.reset()"].all (assignedBy "compress/flate/internal/deflate" "*huffmanOnly.Reset").contains) = true ∧
    (["w", "err", "wroteHeader", "closed", "scratch", "digest.Reset()", "compressor.Reset()"].all
      (assignedBy "compress/zlib" "*Writer.Reset").contains) = true := by
  decide +kernel

/-! Non-vacuity: the toy leaves satisfy the contract; a history that leaves data pending and a failed
    destination behind, then Reset, then a new stream. -/
example : ∀ m, toyLeaves.mfReset m = toyLeaves.mfInit := fun _ => rfl

example :
    let h1 := [Op.write (List.replicate 40 3), Op.flush, Op.write [5, 5, 5]]
    let h2 := [Op.write [1, 2, 3], Op.close]
    let w1 := (run toyLeaves toyCfg (WState.init toyLeaves (failAt 2)) h1).1
    (w1.dyn.buf ≠ [] ∧ w1.err = some .injected) ∧
    (run toyLeaves toyCfg (reset toyLeaves w1 healthy) h2).1.dst.bytes =
      (run toyLeaves toyCfg (WState.init toyLeaves healthy) h2).1.dst.bytes := by
  decide +kernel

end Fastgo.Writer

#print axioms Fastgo.Writer.C12_reset_state
#print axioms Fastgo.Writer.C12_reset_fresh
#print axioms Fastgo.Writer.C12_history
#print axioms Fastgo.Writer.C12_reset_fields_complete
