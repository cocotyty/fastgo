import FastgoModel.Gen.Facts
import FastgoModel.Reader.Control
/-!
# C18 — results do not depend on which CPU acceleration level is selected

The models take NO level parameter: the Reader control model (`Reader/Control.lean`) and the container models
are level-free, and every Writer theorem quantifies over ALL leaf algorithms (match finder, block encoder).
Level-independence of the code is therefore the conjunction of

* `C18_dispatch_shape` (fact theorem): the regenerated list of `cpu.ArchLevel` dispatch sites is exactly the
  modelled one — the decode loop is entered at level ≥ 3 only (`< 3` falls back to the Go loop), the token
  encoder is chosen once in `init` (3 → AVX2, 4 → AVX-512, otherwise Go), the Huffman-only byte encoder only
  at level 4, the assembly match finders at level ≥ 1; a new or altered site breaks this theorem;
* `C18_layout_ok` (fact theorem): every displacement the assembly applies to the decoder-state register
  (R9 in decode_amd64.s) is the gc/amd64 offset of a field of `inflate` (slice header words, bit buffer, the four
  overflow fields, the three lookup tables), the token/byte encoders address `BitBuf` at idx/bits/bitLen and the
  histogram's literal codes at 124;
* the per-level leaf contracts (assembly decode loop ⊑ Go loop, assembly encoders = Go encoder, assembly match
  finders sound) — ASSUMPTIONS validated on every run: every Reader case is executed in separate processes at each
  level the host can run and the per-case outcomes (length, hash, error kind) are compared pairwise and with the
  reference inflater; every Writer property is checked at each level.
-/
namespace Fastgo.Props
open Fastgo.Gen

def expectedArchSites : List (String × String × String) := [
  ("./check.go", "Optimized", ">0"),
  ("compress/flate/decode_amd64.go", "decodeHuffman", "<3"),
  ("compress/flate/internal/deflate/encode_amd64.go", "init", "switch:3,4,default"),
  ("compress/flate/internal/deflate/encode_amd64.go", "optimizedEncodeTokens", ">0"),
  ("compress/flate/internal/deflate/huffmanonly_amd64.go", "init", "switch:4"),
  ("compress/flate/internal/deflate/level_amd64.go", "*level1context.generate", "<1"),
  ("compress/flate/internal/deflate/level_amd64.go", "*level2context.generate", "<1")
]

theorem C18_dispatch_shape : archSites = expectedArchSites := rfl

def offsetOf (st field : String) : Option String :=
  (layouts.find? fun l => l.1 = st ∧ l.2.1 = field).map (·.2.2.1)

/-- offsets of `inflate` the decode loop may address: slice header (0/8/16), scalar fields, table bases -/
def inflateAddressable : List String :=
  ["0", "8", "16"] ++
  (["bits", "bitsLen", "writeOverflowLits", "writeOverflowLen", "copyOverflowLength", "copyOverflowDistance",
    "litLenTable", "distTable"].filterMap fun f => offsetOf "compress/flate.inflate" f) ++
  ["16436"]   -- litLenTable (52) + largeHuffCodeTable.longCodeLookup (16384), checked below

theorem C18_layout_ok :
    -- the long-code table of the literal/length code sits where the assembly expects it
    offsetOf "compress/flate.inflate" "litLenTable" = some "52" ∧
    offsetOf "compress/flate.largeHuffCodeTable" "longCodeLookup" = some "16384" ∧
    offsetOf "compress/flate.inflate" "distTable" = some "18964" ∧
    -- every R9 displacement of the decode loop is an addressable offset of `inflate`
    ((asmDisps.filter fun d => d.1 = "decode_amd64.s" ∧ d.2.1 = "R9").all fun d => inflateAddressable.contains d.2.2) = true ∧
    -- the encoders: BitBuf.idx/bits/bitLen through CX, histogram.literalCodes through AX
    offsetOf "compress/flate/internal/deflate.BitBuf" "idx" = some "24" ∧
    offsetOf "compress/flate/internal/deflate.BitBuf" "bits" = some "32" ∧
    offsetOf "compress/flate/internal/deflate.BitBuf" "bitLen" = some "40" ∧
    offsetOf "compress/flate/internal/deflate.histogram" "literalCodes" = some "124" ∧
    ((asmDisps.filter fun d => d.2.1 = "CX" ∧ d.1 ≠ "decode_amd64.s").all fun d => ["8", "24", "32", "40"].contains d.2.2) = true := by
  decide +kernel

/-- non-vacuity: the decode loop does address the state through R9, at all the offsets the property lists -/
example : (["24", "32", "36", "52", "16436", "18964"].all fun o =>
    asmDisps.any fun d => d.1 = "decode_amd64.s" ∧ d.2.1 = "R9" ∧ d.2.2 = o) = true := by decide +kernel

end Fastgo.Props

#print axioms Fastgo.Props.C18_dispatch_shape
#print axioms Fastgo.Props.C18_layout_ok
