import FastgoModel.Proofs.SoundInstance
import FastgoModel.Proofs.HuffInstance
import FastgoModel.Writer.Example
import FastgoModel.Container.WriterWrap
/-
  The data and the model runs that the non-vacuity examples of C01, C02, C10 and C20 evaluate: the sound instances
  `fixLeaves` / `fixHuff` with the toy configuration (window 8, buffer 274 bytes, at most 12 tokens per block).
-/
namespace Fastgo.Writer
open Fastgo.Spec

def exData : List UInt8 := (List.range 300).map fun i => UInt8.ofNat (i * 7 % 251)
def exOps : List Op := [.write (exData.take 290), .flush, .write (exData.drop 290)]

def exRun := run fixLeaves toyCfg (WState.init fixLeaves healthy) exOps

/-- the conclusion, computed independently of the theorem on a shorter run (Write 12, Flush, Write 5, Flush) -/
def exShort := run fixLeaves toyCfg (WState.init fixLeaves healthy) [.write (exData.take 12), .flush, .write ((exData.drop 12).take 5)]

/-- Huffman-only model (buffer of 16 bytes for the example), sound instance `fixHuff`: Write 12, Flush, Write 25 (fills the
    buffer once), then Flush: every call returns nil and the specification inflater reproduces the 37 bytes -/
def exHuff := hRun fixHuff 16 (HState.init fixHuff healthy) [.write (exData.take 12), .flush, .write ((exData.drop 12).take 25)]

/-- zlib Writer model over the dynamic Writer model with the sound leaves `fixLeaves` (level 1, window 8): Flush first
    (writes the header), Write 12, Flush: all calls accepted; the destination holds 78 01 + a DEFLATE prefix that
    the specification inflater decodes to the 12 bytes -/
def exZ := Fastgo.CWriter.zRun (Fastgo.CWriter.dynOps fixLeaves toyCfg)
  (Fastgo.CWriter.ZW.init (WState.init fixLeaves healthy) 1) [.flush, .write (exData.take 12)]

end Fastgo.Writer
