import FastgoModel.Proofs.ReaderProps
import FastgoModel.Reader.Example
import FastgoModel.Proofs.StreamFrame
import FastgoModel.Reader.FaithfulCheck
/-!
# C05 — after io.EOF the source is positioned exactly at the end of the DEFLATE stream

Model: `Reader/Control.lean` over `Reader/Source.lean`, for an ARBITRARY decoder that is `Sane` (takes no more
than it is given; bits only come from bytes it took; idle once the final block is decoded), every bufio size,
every chunking of the source, every sequence of destination sizes.

* `C05_invariant` : every state reachable from NewReader by Read calls satisfies the bookkeeping invariant `Inv`
  (bytes discarded from the bufio.Reader + whole bytes held in the bit buffer = bytes the decoder took; the decoder
  is fed the source's bytes in order, each exactly once);
* `C05_exact` : once the Reader has finished (io.EOF), `taken + bitsLen/8 = |fed|` and the bytes still
  in (or still to come through) the bufio.Reader are exactly the stream minus the first `taken` bytes;
* `C05_position_after_eof` : with the decoder's end-of-stream contract `8·|fed| = endBit + bitsLen` (the bits it has taken
  from the input and not yet consumed are `bitsLen`; validated per run against the reference inflater's end bit)
  the Reader has consumed exactly ⌈endBit/8⌉ bytes: whatever follows the final block is unread and intact.

The statement covers sources used THROUGH a `*bufio.Reader` (what NewReader and Reset do with one, of any size).
Sources that are io.ByteReaders of another type are wrapped by the library in its own bufio.Reader and over-read:
recorded as known finding F-C05-1 (DESIGN.md section 7), not covered by this theorem. gzip/zlib: C08 / C06.
-/
namespace Fastgo.Reader
variable {δ : Type}

theorem C05_invariant (D : Decoder δ) (hs : D.Sane) (bio : Bufio) (fuel : Nat) (reads : List Nat) :
    Inv bio.stream (readMany D fuel (RState.init D bio) reads).1 := reachable_inv D hs bio fuel reads

theorem C05_exact (S : List UInt8) (r : RState δ) (hi : Inv S r) (hf : r.finished = true) :
    r.bio.taken + r.bitsLen / 8 = r.fed.length ∧ r.bio.stream = S.drop r.bio.taken := by
  have hacct := hi.acct
  rw [hi.finNone hf] at hacct
  refine ⟨hacct.1, ?_⟩
  rw [← hi.total, ← hi.goneLen, List.drop_left]

theorem C05_position_after_eof (S : List UInt8) (r : RState δ) (hi : Inv S r) (hf : r.finished = true)
    (endBit : Nat) (hdec : 8 * r.fed.length = endBit + r.bitsLen) :
    r.bio.taken = (endBit + 7) / 8 ∧ r.bio.stream = S.drop ((endBit + 7) / 8) := by
  obtain ⟨h1, h2⟩ := C05_exact S r hi hf
  have : r.bio.taken = (endBit + 7) / 8 := by omega
  exact ⟨this, this ▸ h2⟩

/-! Non-vacuity: the toy decoder (payload terminated by a 0 byte) over a 16-byte bufio.Reader whose source
    delivers [1,2] / [3,0,9] / [9] + EOF: three Reads deliver 1,2,3 and io.EOF; the Reader has finished having
    consumed exactly the 4 stream bytes; the two bytes after the stream are still there. -/
example : toyDecoder.Sane := toy_sane

example :
    let bio : Bufio := { size := 16, src := [{ bytes := [1, 2] }, { bytes := [3, 0, 9] }, { bytes := [9], err := some .eof }] }
    let run := readMany toyDecoder 20 (RState.init toyDecoder bio) [2, 2, 2]
    run.2 = [.data [1, 2] none, .data [3] none, .data [] (some .eof)] ∧
    run.1.finished = true ∧ run.1.bio.taken = 4 ∧ run.1.bio.stream = [9, 9] := by
  decide

/-! ### the specification side of C05
  `C05_spec_stream_frame` (= `inflate_frame`): a stream that passes the executable check `checkStream` (the specification
  decodes it to the end, every block declaring prefix-free codes; the `S` correspondence applies it to whole streams the
  real Writers emit) decodes to the same data WHATEVER bytes follow it, and the bits left over are its own padding (< 8
  bits) followed by exactly those bytes. `C05_spec_inflater_exact`: hence the specification inflater, used as the inflater
  of the container Reader models, yields the payload and leaves the source exactly behind the stream (`Inflater.Exact`,
  the contract the C06/C08 container theorems assume). Together with `C05_position_after_eof` (the Reader model has taken
  ceil(endBit/8) bytes at io.EOF) and the F correspondence (the real Reader's consumption at io.EOF equals the position
  the specification computes) this closes C05 for every stream the check accepts. -/
theorem C05_spec_stream_frame (mode : Spec.Mode) (bytes more : List UInt8) (hc : Spec.checkStream mode bytes = true) :
    ∃ out rest st st', Spec.inflate mode [] bytes = .done out rest st ∧ rest.length < 8 ∧
      Spec.inflate mode [] (bytes ++ more) = .done out (rest ++ Spec.bytesToBits more) st' :=
  Spec.inflate_frame mode bytes more hc

theorem C05_spec_inflater_exact (mode : Spec.Mode) (body : List UInt8) (hc : Spec.checkStream mode body = true) :
    ∃ payload, (Container.specInflater mode).Exact body payload ∧ Container.specInflater mode body = some (payload, []) :=
  Container.specInflater_exact mode body hc

/-- **the specification inflater is prefix-stable, without side condition**: whatever byte string it decodes to the end
    (less than a byte of padding left) it decodes to the same data when any bytes follow, and exactly those bytes are left.
    This is the specification-level statement of C05 for ALL valid streams. -/
theorem C05_spec_prefix_stable (mode : Spec.Mode) (bytes more : List UInt8) (out : Array UInt8) (rest : Spec.Bits) (st : Spec.Stats)
    (h : Spec.inflate mode [] bytes = .done out rest st) (hr : rest.length < 8) :
    ∃ st', Spec.inflate mode [] (bytes ++ more) = .done out (rest ++ Spec.bytesToBits more) st' :=
  Spec.inflate_prefix_stable mode bytes more out rest st h hr

/-- the same from ANY preset dictionary (zlib FDICT streams, flate.NewReaderDict), with no condition on the rest -/
theorem C05_spec_prefix_stable_dict (mode : Spec.Mode) (dict bytes more : List UInt8) (out : Array UInt8) (rest : Spec.Bits)
    (st : Spec.Stats) (h : Spec.inflate mode dict bytes = .done out rest st) :
    ∃ st', Spec.inflate mode dict (bytes ++ more) = .done out (rest ++ Spec.bytesToBits more) st' :=
  Spec.inflate_prefix_stable_dict mode dict bytes more out rest st h

theorem C05_spec_inflater_exact_of_done (mode : Spec.Mode) (body : List UInt8) (out : Array UInt8) (rest : Spec.Bits)
    (st : Spec.Stats) (h : Spec.inflate mode [] body = .done out rest st) (hr : rest.length < 8) :
    (Container.specInflater mode).Exact body out.toList :=
  Container.specInflater_exact_of_done mode body out rest st h hr

/-- **a checked session ends exactly behind the stream**: if the source holds a complete stream followed by ANY bytes and
    the real Reader's session on it passes `checkFaithful` with io.EOF, then the Reader delivered exactly the stream's
    data and had consumed exactly the stream's bytes — the statement of C05 for that session, with the position computed
    from the stream alone (by `inflate_prefix_stable`) -/
theorem C05_checked_session_position (stream suffix delivered : List UInt8) (consumed : Nat) (cut : Bool)
    (out : Array UInt8) (rest : Spec.Bits) (st : Spec.Stats)
    (hs : Spec.inflate .permissive [] stream = .done out rest st) (hr : rest.length < 8)
    (hc : checkFaithful (stream ++ suffix) delivered .eof consumed cut = true) :
    delivered = out.toList ∧ consumed = stream.length := by
  obtain ⟨out', rest', st', h1, hd, hcons⟩ := checkFaithful_eof (stream ++ suffix) delivered consumed cut hc
  obtain ⟨st2, h2⟩ := Spec.inflate_prefix_stable .permissive stream suffix out rest st hs hr
  cases h1.symm.trans h2
  exact ⟨hd, hcons.trans (Spec.inflate_done_position hs hr suffix)⟩

/-! Non-vacuity: the 18 bytes fastgo emits for `Write("abcabcabcabc"); Close()` at level 1 pass `checkStream`; followed by
    other bytes the specification inflater still yields the 12 bytes and leaves exactly those bytes. -/
def realStream : List UInt8 := [0x35,0xc2,0x31,0x0d,0x00,0x00,0x00,0x83,0x30,0xad,0x1b,0xfe,0x3d,0x70,0x91,0x74,0x27,0x08]

example : Spec.checkStream .strict realStream = true ∧
    Container.specInflater .strict (realStream ++ [1, 2, 3]) = some ("abcabcabcabc".toUTF8.toList, [1, 2, 3]) := by
  decide +kernel

end Fastgo.Reader

#print axioms Fastgo.Reader.C05_spec_stream_frame
#print axioms Fastgo.Reader.C05_spec_prefix_stable
#print axioms Fastgo.Reader.C05_spec_prefix_stable_dict
#print axioms Fastgo.Reader.C05_checked_session_position
#print axioms Fastgo.Reader.C05_spec_inflater_exact_of_done
#print axioms Fastgo.Reader.C05_spec_inflater_exact
#print axioms Fastgo.Reader.C05_invariant
#print axioms Fastgo.Reader.C05_exact
#print axioms Fastgo.Reader.C05_position_after_eof
