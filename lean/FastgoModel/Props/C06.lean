import FastgoModel.Proofs.GzipHeader
import FastgoModel.Proofs.ZlibHeader
import FastgoModel.Container.Digest
import FastgoModel.Container.Members
import FastgoModel.Proofs.WriterWrap
import FastgoModel.Proofs.StreamFrame
import FastgoModel.Proofs.RoundTrip
/-!
# C06 — gzip and zlib containers round-trip and interoperate

Models: `Container/Gzip.lean` (gzip.go writeHeader / ungzip.go readHeader), `Container/Zlib.lean`
(writer.go writeHeader / reader.go Reset), `Container/Digest.lean` (gzip's running CRC-32 / size; zlib's Adler-32 state is `Spec.adlerUpdate`).

* `C06_gzip_header_roundtrip` : for EVERY representable header (Latin-1 name/comment without NUL of at most 511
  bytes, extra field of at most 65535 bytes present-or-absent, MTIME < 2^32, any OS byte) and every level, the
  Reader parses exactly the header the Writer emitted, and is positioned exactly after it;
* `C06_gzip_trailer` : whatever the partition of the payload into Write calls, the 8 bytes written by Close are
  CRC-32 then length mod 2^32 of the concatenated payload, little-endian;
* `C06_zlib_header_roundtrip`, `C06_zlib_trailer` : CMF/FLG with FCHECK (multiple of 31), FDICT + DICTID
  (Adler-32 of the dictionary), accepted by the Reader for every level / dictionary; trailer = Adler-32, big-endian;
* `C06_gzip_member_reads_back` : a whole member (header, DEFLATE body, trailer) is read back as (header, payload)
  with the source left exactly after it — given an inflater exact on the body (C01/C02/C05).

Both ends are the SAME format definitions, so fastgo→stdlib and stdlib→fastgo interoperability reduces to both
implementations matching these definitions: validated on every run in both directions by the harness (fields,
payload, trailer bytes). hash/crc32 and hash/adler32 are validated against Spec/Checksum.lean (K cases).
-/
namespace Fastgo.Container
open Fastgo.Spec

theorem C06_gzip_header_roundtrip (h : GzHeader) (hwf : h.WF) (level : Int) (rest : List UInt8) :
    parseHeader (emitHeader h level ++ rest) = .ok h rest := gzip_header_roundtrip h hwf level rest

theorem C06_gzip_trailer (writes : List (List UInt8)) :
    (writes.foldl GzSum.update {}).trailer = emitTrailer writes.flatten := by
  rw [show ({} : GzSum) = GzSum.update {} [] from rfl, foldl_chunks _ GzSum.update_append, GzSum.init_update]
  rfl

theorem C06_zlib_header_roundtrip (level : Int) (dict : Option (List UInt8)) (rest : List UInt8) :
    parseZHeader dict (emitZHeader level dict ++ rest) = .ok dict.isSome rest := zlib_header_roundtrip level dict rest

theorem C06_zlib_header_fcheck (level : Int) (d : Bool) : (0x78 * 256 + flgByte level d) % 31 = 0 :=
  (flgByte_spec level d).2.1

theorem C06_zlib_trailer (writes : List (List UInt8)) :
    be (adlerValue (writes.foldl adlerUpdate (1, 0))) 4 = emitZTrailer writes.flatten :=
  congrArg (fun s => be (adlerValue s) 4) (foldl_chunks adlerUpdate adlerUpdate_append (1, 0) [] writes)

theorem C06_gzip_member_reads_back (I : Inflater) (h : GzHeader) (hwf : h.WF) (level : Int)
    (body payload rest : List UInt8) (hI : I.Exact body payload) :
    readOneMember I (gzMember h level body payload ++ rest) = some (h, payload, rest) :=
  readOneMember_member I h hwf level body payload rest hI

/-- what a gzip Writer has put on the destination once Close has returned nil, for ANY accepted history of
    Write / Flush / Reset calls: the header of the current member, one complete DEFLATE stream that the
    specification inflater decodes to exactly the data written, and the CRC-32 / length trailer of that data.
    (Writer control model `Container/WriterWrap.lean`, tied by the `GW` correspondence; inner Writer under its
    stream contract, see C10.) Together with `C06_gzip_header_roundtrip` and `C06_gzip_member_reads_back` this is
    the whole member as a reader sees it. -/
theorem C06_gzip_writer_emits_member {ι : Type} (O : CWriter.InnerOps ι) {mode : Mode} (C : CWriter.InnerStream O mode)
    (i : ι) (level : Int) (h : GzHeader) (hf : C.Fresh i) (hh : (O.dst i).Healthy) (hg : (O.dst i).got = [])
    (ops : List Writer.Op) (ha : CWriter.allAccepted ops (CWriter.gRun O (CWriter.GW.init i level h) ops).2) :
    (CWriter.gClose O (CWriter.gRun O (CWriter.GW.init i level h) ops).1).2.err = none ∧
    ∃ bodyBytes st rest, (O.dst (CWriter.gClose O (CWriter.gRun O (CWriter.GW.init i level h) ops).1).1.inner).bytes =
        emitHeader (CWriter.hdrOf h ops) level ++ bodyBytes ++ emitTrailer (CWriter.dataOf [] ops) ∧
      inflate mode [] bodyBytes = .done (CWriter.dataOf [] ops).toArray rest st ∧ rest.length < 8 := by
  obtain ⟨h1, h2, h3⟩ := CWriter.gRun_inv O C ops [] _ (CWriter.ginv_fresh O C i level h hf hh hg) ha
  obtain ⟨c1, _, b, c3, c4⟩ := CWriter.gClose_spec O C _ _ h1
  obtain ⟨st, rest, hinf, hl, _⟩ := Writer.closedStream_inflate c4
  rw [h2, h3] at c3
  exact ⟨c1, b, st, rest, c3, hinf, hl⟩

theorem C06_zlib_writer_emits_stream {ι : Type} (O : CWriter.InnerOps ι) {mode : Mode} (C : CWriter.InnerStream O mode)
    (i : ι) (level : Int) (hf : C.Fresh i) (hh : (O.dst i).Healthy) (hg : (O.dst i).got = [])
    (ops : List Writer.Op) (ha : CWriter.allAccepted ops (CWriter.zRun O (CWriter.ZW.init i level) ops).2) :
    (CWriter.zClose O (CWriter.zRun O (CWriter.ZW.init i level) ops).1).2.err = none ∧
    ∃ bodyBytes st rest, (O.dst (CWriter.zClose O (CWriter.zRun O (CWriter.ZW.init i level) ops).1).1.inner).bytes =
        emitZHeader level none ++ bodyBytes ++ emitZTrailer (CWriter.dataOf [] ops) ∧
      inflate mode [] bodyBytes = .done (CWriter.dataOf [] ops).toArray rest st ∧ rest.length < 8 := by
  obtain ⟨h1, h2⟩ := CWriter.zRun_inv O C ops [] _ (CWriter.zinv_fresh O C i level hf hh hg) ha
  obtain ⟨c1, _, b, c3, c4⟩ := CWriter.zClose_spec O C _ _ h1
  obtain ⟨st, rest, hinf, hl, _⟩ := Writer.closedStream_inflate c4
  rw [h2] at c3
  exact ⟨c1, b, st, rest, c3, hinf, hl⟩

/-! Non-vacuity: a header using every optional field. -/
example : ({ extra := some [9, 9], name := [0x66, 0xe9], comment := [0x63], mtime := 1700000000, os := 3 } : GzHeader).WF := by
  simp [GzHeader.WF]

example : parseHeader (emitHeader { extra := some [], name := [0x66], mtime := 5 } 9 ++ [1, 2]) =
    .ok { extra := some [], name := [0x66], mtime := 5 } [1, 2] :=
  C06_gzip_header_roundtrip _ (by simp [GzHeader.WF]) 9 [1, 2]

/-- `C06_gzip_member_reads_back` with the abstract inflater replaced by the SPECIFICATION inflater: a gzip member whose
    DEFLATE body passes the executable check `checkStream` is read back — header fields, payload, source left exactly
    behind the trailer — whatever follows it. No inflater contract is assumed. -/
theorem C06_gzip_member_reads_back_spec (mode : Spec.Mode) (h : GzHeader) (hwf : h.WF) (level : Int) (body rest : List UInt8)
    (hc : Spec.checkStream mode body = true) :
    ∃ payload, specInflater mode body = some (payload, []) ∧
      readOneMember (specInflater mode) (gzMember h level body payload ++ rest) = some (h, payload, rest) :=
  gzip_member_reads_back_spec mode h hwf level body rest hc

/-- the zlib counterpart: header, checked body, Adler-32 trailer, then anything — the Reader model over the specification
    inflater yields the payload and leaves exactly what follows the trailer -/
theorem C06_zlib_stream_reads_back_spec (mode : Spec.Mode) (level : Int) (body rest : List UInt8)
    (hc : Spec.checkStream mode body = true) :
    ∃ payload, specInflater mode body = some (payload, []) ∧
      readZlib (specInflater mode) (emitZHeader level none ++ (body ++ (emitZTrailer payload ++ rest))) = some (payload, rest) :=
  zlib_stream_reads_back_spec mode level body rest hc

/-- **gzip round trip inside the model, no inflater hypothesis**: for ANY accepted history of Write / Flush / Reset calls on
    the gzip Writer model (inner Writer under its stream contract), Close succeeds and the bytes on the destination, followed
    by ANY bytes, are read back by the gzip Reader model over the SPECIFICATION inflater as exactly: the header fields in
    effect, the data written, and those following bytes untouched. -/
theorem C06_gzip_roundtrip_model {ι : Type} (O : CWriter.InnerOps ι) {mode : Mode} (C : CWriter.InnerStream O mode)
    (i : ι) (level : Int) (h : GzHeader) (hf : C.Fresh i) (hh : (O.dst i).Healthy) (hg : (O.dst i).got = [])
    (ops : List Writer.Op) (ha : CWriter.allAccepted ops (CWriter.gRun O (CWriter.GW.init i level h) ops).2)
    (hwf : (CWriter.hdrOf h ops).WF) (after : List UInt8) :
    (CWriter.gClose O (CWriter.gRun O (CWriter.GW.init i level h) ops).1).2.err = none ∧
    readOneMember (specInflater mode)
        ((O.dst (CWriter.gClose O (CWriter.gRun O (CWriter.GW.init i level h) ops).1).1.inner).bytes ++ after) =
      some (CWriter.hdrOf h ops, CWriter.dataOf [] ops, after) :=
  CWriter.gzip_roundtrip_model O C i level h hf hh hg ops ha hwf after

/-- the zlib counterpart -/
theorem C06_zlib_roundtrip_model {ι : Type} (O : CWriter.InnerOps ι) {mode : Mode} (C : CWriter.InnerStream O mode)
    (i : ι) (level : Int) (hf : C.Fresh i) (hh : (O.dst i).Healthy) (hg : (O.dst i).got = [])
    (ops : List Writer.Op) (ha : CWriter.allAccepted ops (CWriter.zRun O (CWriter.ZW.init i level) ops).2) (after : List UInt8) :
    (CWriter.zClose O (CWriter.zRun O (CWriter.ZW.init i level) ops).1).2.err = none ∧
    readZlib (specInflater mode)
        ((O.dst (CWriter.zClose O (CWriter.zRun O (CWriter.ZW.init i level) ops).1).1.inner).bytes ++ after) =
      some (CWriter.dataOf [] ops, after) :=
  CWriter.zlib_roundtrip_model O C i level hf hh hg ops ha after

end Fastgo.Container

#print axioms Fastgo.Container.C06_gzip_header_roundtrip
#print axioms Fastgo.Container.C06_gzip_trailer
#print axioms Fastgo.Container.C06_zlib_header_roundtrip
#print axioms Fastgo.Container.C06_zlib_header_fcheck
#print axioms Fastgo.Container.C06_zlib_trailer
#print axioms Fastgo.Container.C06_gzip_member_reads_back
#print axioms Fastgo.Container.C06_gzip_member_reads_back_spec
#print axioms Fastgo.Container.C06_zlib_stream_reads_back_spec
#print axioms Fastgo.Container.C06_gzip_roundtrip_model
#print axioms Fastgo.Container.C06_zlib_roundtrip_model
#print axioms Fastgo.Container.C06_gzip_writer_emits_member
#print axioms Fastgo.Container.C06_zlib_writer_emits_stream
