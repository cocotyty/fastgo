import FastgoModel.Proofs.ContainerReaders
/-!
# C07 — gzip/zlib Readers never report success for data that fails its checksum

Model: `Container/Readers.lean` — the Read loops of ungzip.go and zlib/reader.go. The inflater is the
ENVIRONMENT: any sequence of (bytes, error) answers, so the theorems hold for every payload, every corruption
of it, every Read buffer size. `after` is whatever the source holds after the DEFLATE stream (the trailer, a
corrupted trailer, a truncated one, nothing).

* `C07_gzip_eof_is_checked` : if a run of Read calls over one member ends in io.EOF, the bytes handed out have
  exactly the CRC-32 and the length (mod 2^32) stored in the 8 bytes after the DEFLATE stream;
* `C07_zlib_eof_is_checked` : the same with Adler-32 and the 4-byte trailer;
* `C07_gzip_counts` / `C07_zlib_counts` : the byte count of every Read is the inflater's payload count of that
  call — in particular when the trailer is cut short (the count is NOT the number of trailer bytes read);
* `C07_gzip_truncated_trailer` : a trailer shorter than 8 bytes ends the run in io.ErrUnexpectedEOF.

That the payload delivered before an error is a prefix of the true payload is the inflater's property (C03).
-/
namespace Fastgo.Container
open Fastgo.Spec

theorem C07_gzip_eof_is_checked (z : GzReader) (hm : z.multistream = false) (hfresh : z.sum = {}) (hopen : z.err = none)
    (after : List UInt8) (answers : List InflAns) (delivered : List UInt8) (z' : GzReader)
    (h : gzRun z after answers = (delivered, some .eof, z')) :
    ∃ t r, takeN 8 after = some (t, r) ∧
      unle (t.take 4) = (crc32 delivered).toNat ∧ unle (t.drop 4) = delivered.length % 2 ^ 32 :=
  gzRun_eof_checked (D0 := []) hm hopen hfresh h

theorem C07_zlib_eof_is_checked (z : ZReader) (hfresh : z.digest = (1, 0)) (hopen : z.err = none)
    (after : List UInt8) (answers : List InflAns) (delivered : List UInt8) (z' : ZReader)
    (h : zRun z after answers = (delivered, some .eof, z')) :
    ∃ t r, takeN 4 after = some (t, r) ∧ unbe t = adler32 delivered :=
  zRun_eof_checked (D0 := []) hopen hfresh h

theorem C07_gzip_counts (z : GzReader) (a : InflAns) (after : List UInt8) :
    (gzReadBody z a after).2.1.bytes = a.bytes := (gzReadBody_spec z a after).1

theorem C07_zlib_counts (z : ZReader) (a : InflAns) (after : List UInt8) :
    (zReadBody z a after).2.bytes = a.bytes := (zReadBody_spec z a after).1

theorem C07_gzip_truncated_trailer (z : GzReader) (a : InflAns) (ha : a.err = some .eof) (after : List UInt8)
    (hshort : after.length < 8) :
    (gzReadBody z a after).2.1 = { bytes := a.bytes, err := some .unexpectedEOF } := by
  unfold gzReadBody
  simp [ha, takeN, hshort]

/-! Non-vacuity: payload [1,2,3] handed out by two Read calls (2 + 1 bytes, EOF with the last), followed by its
    true trailer: the run ends in io.EOF; with one trailer byte changed it ends in a checksum error. -/
example :
    let good := emitTrailer [1, 2, 3]
    let answers : List InflAns := [{ bytes := [1, 2] }, { bytes := [3], err := some .eof }]
    (gzRun { multistream := false } good answers).2.1 = some .eof ∧
    (gzRun { multistream := false } (good.set 0 0) answers).2.1 = some .checksum ∧
    (gzRun { multistream := false } (good.take 5) answers).2.1 = some .unexpectedEOF := by
  decide +kernel

end Fastgo.Container

#print axioms Fastgo.Container.C07_gzip_eof_is_checked
#print axioms Fastgo.Container.C07_zlib_eof_is_checked
#print axioms Fastgo.Container.C07_gzip_counts
#print axioms Fastgo.Container.C07_zlib_counts
#print axioms Fastgo.Container.C07_gzip_truncated_trailer
