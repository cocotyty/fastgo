import FastgoModel.Props.Examples
import FastgoModel.Proofs.WriterWrap
/-!
# C10 — after Flush, all data written so far decodes from the bytes emitted so far

Model: the control flow of writer.go / dynamic.go / bitbuf.go (`Writer.Control`), for ARBITRARY leaf algorithms
(match finder, block encoder) that satisfy the leaf contracts `Sound`:

* `Sound.gen` — the tokens a match-finder call appends stand for exactly the bytes it consumed
  (`resolve history new = buffer[idx, nIdx)`), it never moves backwards and a flush call consumes everything or, when
  it stops early (token buffer full), has made progress;
* `Sound.enc` — one encoded block, whatever follows it, makes the SPECIFICATION inflater (`Spec.inflateBlock`,
  the Lean transcription of RFC 1951 validated against compress/flate by the `I` correspondence) append exactly
  the bytes the tokens stand for; the encoder hands out `carry ++ block` split into whole bytes + a new carry.

`C10_flush_point` (unbounded: any data, any sequence of Write / Flush / Reset-onto-a-fresh-destination calls, any
buffer roll-over or window slide on the way): when Flush is called on a Writer all of whose calls so far
returned nil, it returns nil, no bit is held back (the output ends on a byte boundary), and the specification
inflater, fed only the bytes the destination holds, reproduces exactly all the data accepted since the
stream began and then asks for more input at a block boundary — never "corrupt".
`C10_stream_stays_valid`: the state after that Flush again satisfies the invariant every later Write, Flush and
Close theorem starts from (so later flush points and the final Close — C01 — decode the whole data).

`C10_flush_point_huff`: the same for the Huffman-only compressor (level -2; control model `Writer/HuffControl.lean`
of huffmanonly.go under writer.go's Write loop, tied by the `H` correspondence), under the block encoder's
contract `HSound` (one block that the specification inflater decodes to the buffered bytes).

`C10_flush_point_zlib`, `C10_flush_point_gzip`: the same for the container Writers. The control models of
compress/zlib/writer.go and compress/gzip/gzip.go (`Container/WriterWrap.lean`: header written lazily by whichever
call comes first, sticky error, closed flag, running checksum, trailer; tied by the `ZW` / `GW` correspondences,
which also compare the header and trailer bytes) sit on top of ANY inner Writer that meets the stream contract
`InnerStream` — `dynStream` and `huffStream` prove that the dynamic and the Huffman-only Writer models meet it
(under `Sound` / `HSound`). After a successful Flush the destination holds exactly the container header followed by
DEFLATE bytes that the specification inflater decodes to all the data written so far, asking for more at a block
boundary.

Not covered by these theorems (decided by the oracle of the Go harness at every acceleration level, see
evidence): that lz77*.go/.s, encode*.go/.s and huffmanonly*.go/.s meet `Sound` / `HSound` on the calls the harness does not
generate (the theorems assume the contracts; `fixSound` / `fixHSound` show them satisfiable by complete executable
instances; `G` checks every recorded match-finder call and `E` every emitted block with proved checks, see C01), the levels delegated to compress/flate, preset dictionaries (delegated; F-C01-1) and the Latin-1 / time
conversions of the gzip header.
-/
namespace Fastgo.Writer
open Fastgo.Spec
variable {MF Tok : Type}

theorem C10_flush_point (L : DynLeaves MF Tok) {mode : Mode} (S : Sound L mode) (c : Cfg) (hw : 0 < c.window)
    (dst : Dst) (hh : dst.Healthy) (hd : dst.got = []) (ops : List Op) (hops : ∀ op ∈ ops, op.keepsOpen)
    (hok : ∀ r ∈ (run L c (WState.init L dst) ops).2, r.err = none) :
    (flush L c (run L c (WState.init L dst) ops).1).2.err = none ∧
    (flush L c (run L c (WState.init L dst) ops).1).1.dyn.carry = [] ∧
    ∃ st, inflate mode [] (flush L c (run L c (WState.init L dst) ops).1).1.dst.bytes =
      .needMore (dataAfterAll [] ops (run L c (WState.init L dst) ops).2).toArray [] st true := by
  have ht := run_tracks L S c hw ops [] (WState.init L dst) (tracks_init L S dst hh hd) hops hok
  obtain ⟨f1, _, _, f4, n, hch⟩ := flush_tracks L S c _ _ ht.1 ht.2
  obtain ⟨st, hinf⟩ := inflate_of_chain _ hch
  exact ⟨f1, f4, st, hinf⟩

theorem C10_stream_stays_valid (L : DynLeaves MF Tok) {mode : Mode} (S : Sound L mode) (c : Cfg) {base : Nat}
    {H : List UInt8} (D : List UInt8) (w : WState MF Tok) (ht : Tracks L S base H D w) :
    Tracks L S base H D (flush L c w).1 := by
  obtain ⟨_, f2, f3, _⟩ := flush_tracks L S c D w ht.1 ht.2
  exact ⟨f2, f3⟩

theorem C10_flush_point_huff {σ : Type} (L : HuffLeaf σ) {mode : Mode} (S : HSound L mode) (max : Nat)
    (dst : Dst) (hh : dst.Healthy) (hd : dst.got = []) (ops : List Op) (hops : ∀ op ∈ ops, op.keepsOpen)
    (hok : ∀ r ∈ (hRun L max (HState.init L dst) ops).2, r.err = none) :
    (hFlush L (hRun L max (HState.init L dst) ops).1).2.err = none ∧
    (hFlush L (hRun L max (HState.init L dst) ops).1).1.huff.carry = [] ∧
    ∃ st, inflate mode [] (hFlush L (hRun L max (HState.init L dst) ops).1).1.dst.bytes =
      .needMore (dataAfterAll [] ops (hRun L max (HState.init L dst) ops).2).toArray [] st true := by
  have ht := hRun_tracks L S max ops [] (HState.init L dst) ⟨rfl, hinv_init mode L.init dst hh hd⟩ hops hok
  obtain ⟨f1, _, f3, n, hch⟩ := hFlush_tracks L S _ _ ht
  obtain ⟨st, hinf⟩ := inflate_of_chain _ hch
  exact ⟨f1, f3, st, hinf⟩

open Fastgo.Container Fastgo.CWriter in
theorem C10_flush_point_zlib {ι : Type} (O : InnerOps ι) {mode : Mode} (C : InnerStream O mode) (i : ι) (level : Int)
    (hf : C.Fresh i) (hh : (O.dst i).Healthy) (hg : (O.dst i).got = []) (ops : List Op)
    (ha : allAccepted ops (zRun O (ZW.init i level) ops).2) :
    (zFlush O (zRun O (ZW.init i level) ops).1).2.err = none ∧
    ∃ bodyBytes st, (O.dst (zFlush O (zRun O (ZW.init i level) ops).1).1.inner).bytes = emitZHeader level none ++ bodyBytes ∧
      inflate mode [] bodyBytes = .needMore (dataOf [] ops).toArray [] st true := by
  obtain ⟨h1, h2⟩ := zRun_inv O C ops [] _ (zinv_fresh O C i level hf hh hg) ha
  obtain ⟨f1, _, b, n, f3, f4⟩ := zFlush_spec O C _ _ h1
  obtain ⟨st, hinf⟩ := inflate_of_chain b f4
  rw [h2] at f3
  exact ⟨f1, b, st, f3, hinf⟩

open Fastgo.Container Fastgo.CWriter in
theorem C10_flush_point_gzip {ι : Type} (O : InnerOps ι) {mode : Mode} (C : InnerStream O mode) (i : ι) (level : Int)
    (h : GzHeader) (hf : C.Fresh i) (hh : (O.dst i).Healthy) (hg : (O.dst i).got = []) (ops : List Op)
    (ha : allAccepted ops (gRun O (GW.init i level h) ops).2) :
    (gFlush O (gRun O (GW.init i level h) ops).1).2.err = none ∧
    ∃ bodyBytes st, (O.dst (gFlush O (gRun O (GW.init i level h) ops).1).1.inner).bytes =
        emitHeader (hdrOf h ops) level ++ bodyBytes ∧
      inflate mode [] bodyBytes = .needMore (dataOf [] ops).toArray [] st true := by
  obtain ⟨h1, h2, h3⟩ := gRun_inv O C ops [] _ (ginv_fresh O C i level h hf hh hg) ha
  obtain ⟨f1, _, _, _, b, n, f3, f4⟩ := gFlush_spec O C _ _ h1
  obtain ⟨st, hinf⟩ := inflate_of_chain b f4
  rw [h2, h3] at f3
  exact ⟨f1, b, st, f3, hinf⟩

/-- `run` of a prefix is a prefix of the run (operations are executed left to right), so `C10_flush_point` applies to
    the operations up to any Flush of a longer history -/
theorem run_append (L : DynLeaves MF Tok) (c : Cfg) (w : WState MF Tok) (a b : List Op) :
    run L c w (a ++ b) = ((run L c (run L c w a).1 b).1, (run L c w a).2 ++ (run L c (run L c w a).1 b).2) := by
  induction a generalizing w with
  | nil => simp [run]
  | cons op a ih => simp [run, ih]

/-! Non-vacuity: the complete sound instance `fixLeaves` (literal tokens, fixed-Huffman blocks, window 8, buffer
    274 bytes, at most 12 tokens per block), 300 bytes written as 290 + Flush + 10: the hypotheses hold (every call
    returns nil, the buffer filled up and slid on the way), and — computed independently of the theorem — the
    specification inflater run on the bytes emitted after the final Flush returns `needMore` at a block
    boundary with exactly the 300 bytes. The data and the runs (`exData`, `exOps`, `exRun`, `exShort`, `exHuff`, `exZ`) are in
    Props/Examples.lean. -/

example : (∀ op ∈ exOps, op.keepsOpen) := by
  intro op h
  simp only [exOps, List.mem_cons, List.mem_nil_iff, or_false] at h
  rcases h with h | h | h <;> subst h <;> trivial

def isNeedMoreWith (r : Result) (D : List UInt8) : Bool :=
  match r with
  | .needMore out [] _ true => out.toList == D
  | _ => false

example :
    exRun.2 = [{ n := 290 }, {}, { n := 10 }] ∧ exRun.1.dst.calls = 3 ∧ dataAfterAll [] exOps exRun.2 = exData := by
  decide +kernel

/-- the three flush points below, evaluated in one declaration: the kernel builds the fixed Huffman code once for all -/
theorem exFlushPoints :
    isNeedMoreWith (inflate .strict [] (flush fixLeaves toyCfg exShort.1).1.dst.bytes) (exData.take 17) = true ∧
    (exHuff.2 = [{ n := 12 }, {}, { n := 25 }] ∧ exHuff.1.dst.calls = 3 ∧ exHuff.1.huff.buf.length = 9 ∧
      isNeedMoreWith (inflate .strict [] (hFlush fixHuff exHuff.1).1.dst.bytes) (exData.take 37) = true) ∧
    exZ.2 = [{}, { n := 12 }] ∧
    ((Fastgo.CWriter.zFlush (Fastgo.CWriter.dynOps fixLeaves toyCfg) exZ.1).1.inner.dst.bytes.take 2 = [0x78, 0x01]) ∧
    isNeedMoreWith (inflate .strict [] ((Fastgo.CWriter.zFlush (Fastgo.CWriter.dynOps fixLeaves toyCfg) exZ.1).1.inner.dst.bytes.drop 2))
      (exData.take 12) = true := by
  decide +kernel

example :
    isNeedMoreWith (inflate .strict [] (flush fixLeaves toyCfg exShort.1).1.dst.bytes) (exData.take 17) = true :=
  exFlushPoints.1

example :
    exHuff.2 = [{ n := 12 }, {}, { n := 25 }] ∧ exHuff.1.dst.calls = 3 ∧ exHuff.1.huff.buf.length = 9 ∧
    isNeedMoreWith (inflate .strict [] (hFlush fixHuff exHuff.1).1.dst.bytes) (exData.take 37) = true :=
  exFlushPoints.2.1

example :
    exZ.2 = [{}, { n := 12 }] ∧
    ((Fastgo.CWriter.zFlush (Fastgo.CWriter.dynOps fixLeaves toyCfg) exZ.1).1.inner.dst.bytes.take 2 = [0x78, 0x01]) ∧
    isNeedMoreWith (inflate .strict [] ((Fastgo.CWriter.zFlush (Fastgo.CWriter.dynOps fixLeaves toyCfg) exZ.1).1.inner.dst.bytes.drop 2))
      (exData.take 12) = true :=
  exFlushPoints.2.2

end Fastgo.Writer

#print axioms Fastgo.Writer.C10_flush_point
#print axioms Fastgo.Writer.C10_stream_stays_valid
#print axioms Fastgo.Writer.fixSound
#print axioms Fastgo.Writer.C10_flush_point_huff
#print axioms Fastgo.Writer.fixHSound
#print axioms Fastgo.Writer.C10_flush_point_zlib
#print axioms Fastgo.Writer.C10_flush_point_gzip
#print axioms Fastgo.CWriter.dynStream
#print axioms Fastgo.CWriter.huffStream
