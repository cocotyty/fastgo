import FastgoModel.Container.Members
import FastgoModel.Proofs.StreamFrame
/-!
# C08 — concatenated gzip members read as one stream, or member by member

`readOneMember` is NewReader/Reset (parse a header) followed by reading to io.EOF with Multistream(false);
`readAllMembers` is the default mode's loop (after a verified trailer: next header, clean end of source =
io.EOF). The inflater is a parameter with the contract `Exact body payload` — it decodes the member's DEFLATE
stream and leaves the buffered source exactly after it (C02 + C05; validated per run). By induction on the
member list:

* `C08_multistream`      : k ≥ 1 members back to back read as the concatenation of their payloads, then io.EOF;
* `C08_member_by_member` : k rounds of Multistream(false)+Reset return each member's header and payload in
  order and leave whatever follows the last member unread.

Headers range over every representable header (`GzHeader.WF`), payloads and bodies over all byte strings.
-/
namespace Fastgo.Container
open Fastgo.Spec

structure Member where
  h       : GzHeader
  level   : Int
  body    : List UInt8
  payload : List UInt8

def Member.bytes (m : Member) : List UInt8 := gzMember m.h m.level m.body m.payload

def fileOf (ms : List Member) : List UInt8 := (ms.map Member.bytes).flatten

def Member.OK (I : Inflater) (m : Member) : Prop := m.h.WF ∧ I.Exact m.body m.payload

theorem member_bytes_ne (m : Member) : m.bytes ≠ [] := by
  simp [Member.bytes, gzMember, emitHeader, fixedPart]

theorem fileOf_eq_nil (ms : List Member) : fileOf ms = [] ↔ ms = [] := by
  cases ms with
  | nil => simp [fileOf]
  | cons m r => simp [fileOf, member_bytes_ne m]

theorem fileOf_cons (m : Member) (ms : List Member) :
    fileOf (m :: ms) = gzMember m.h m.level m.body m.payload ++ fileOf ms := rfl

/-- the step of both member loops: the first member of a file is read, and the rest of the file is left -/
theorem readOneMember_fileOf_cons {I : Inflater} {m : Member} (hm : m.OK I) (ms : List Member) (rest : List UInt8) :
    readOneMember I (fileOf (m :: ms) ++ rest) = some (m.h, m.payload, fileOf ms ++ rest) := by
  rw [fileOf_cons, List.append_assoc]
  exact readOneMember_member I m.h hm.1 m.level m.body m.payload _ hm.2

theorem C08_multistream (I : Inflater) (ms : List Member) (hne : ms ≠ []) (hall : ∀ m ∈ ms, m.OK I) :
    readAllMembers I ms.length (fileOf ms) = some ((ms.map (·.payload)).flatten) := by
  induction ms with
  | nil => exact absurd rfl hne
  | cons m rest ih =>
    have hm := readOneMember_fileOf_cons (hall m List.mem_cons_self) rest []
    simp only [List.append_nil] at hm
    rw [List.length_cons, readAllMembers, hm]
    by_cases hr : rest = []
    · simp [hr, fileOf]
    · simp [mt (fileOf_eq_nil rest).mp hr, ih hr fun x hx => hall x (List.mem_cons_of_mem _ hx)]

/-- k rounds of (Reset; Multistream(false); read to io.EOF) -/
def readRounds (I : Inflater) : Nat → List UInt8 → Option (List (GzHeader × List UInt8) × List UInt8)
  | 0, src => some ([], src)
  | k + 1, src =>
    match readOneMember I src with
    | none => none
    | some (h, payload, r) =>
      match readRounds I k r with
      | none => none
      | some (l, r2) => some ((h, payload) :: l, r2)

theorem C08_member_by_member (I : Inflater) (ms : List Member) (hall : ∀ m ∈ ms, m.OK I) (trailing : List UInt8) :
    readRounds I ms.length (fileOf ms ++ trailing) = some (ms.map (fun m => (m.h, m.payload)), trailing) := by
  induction ms with
  | nil => rfl
  | cons m rest ih =>
    simp only [List.length_cons, readRounds, readOneMember_fileOf_cons (hall m List.mem_cons_self),
      ih fun x hx => hall x (List.mem_cons_of_mem _ hx), List.map_cons]

/-! Non-vacuity: an inflater that reads stored-style "bodies" (1 length byte + bytes), two members (one with an
    empty payload, one with name and extra field), trailing data. -/
def toyInflater : Inflater := fun src =>
  match src with
  | [] => none
  | n :: r => if r.length < n.toNat then none else some (r.take n.toNat, r.drop n.toNat)

theorem toy_exact (p : List UInt8) (hp : p.length < 256) : toyInflater.Exact (UInt8.ofNat p.length :: p) p := by
  intro rest
  simp [toyInflater, UInt8.toNat_ofNat_of_lt' hp]

example : (⟨{ name := [97, 98], extra := some [1, 2, 3], mtime := 77 }, 1, [3, 10, 20, 30], [10, 20, 30]⟩ : Member).OK toyInflater :=
  ⟨by simp [GzHeader.WF], toy_exact [10, 20, 30] (by decide)⟩

example : (⟨{}, 6, [0], []⟩ : Member).OK toyInflater := ⟨by simp [GzHeader.WF], toy_exact [] (by decide)⟩

/-! ### no inflater hypothesis: the specification inflater
  `Member.SpecOK`: well-formed header, and the body is a byte string the specification inflater decodes to the end to the
  payload. `specInflater_exact_of_done` (from `inflate_prefix_stable`, the unconditional frame theorem) shows such a member
  is `OK` for the specification inflater, so the member-sequence theorems hold for it with NO assumption about the inflater
  (`C08_multistream_spec`). -/
def Member.SpecOK (mode : Mode) (m : Member) : Prop :=
  m.h.WF ∧ ∃ rest st, inflate mode [] m.body = .done m.payload.toArray rest st ∧ rest.length < 8

theorem Member.SpecOK.ok {mode : Mode} {m : Member} (h : m.SpecOK mode) : m.OK (specInflater mode) := by
  obtain ⟨hw, rest, st, hd, hr⟩ := h
  have := specInflater_exact_of_done mode m.body m.payload.toArray rest st hd hr
  exact ⟨hw, by simpa using this⟩

theorem C08_multistream_spec (mode : Mode) (ms : List Member) (hne : ms ≠ []) (hall : ∀ m ∈ ms, m.SpecOK mode) :
    readAllMembers (specInflater mode) ms.length (fileOf ms) = some ((ms.map (·.payload)).flatten) :=
  C08_multistream (specInflater mode) ms hne (fun m hm => (hall m hm).ok)

end Fastgo.Container

#print axioms Fastgo.Container.C08_multistream
#print axioms Fastgo.Container.C08_multistream_spec
#print axioms Fastgo.Container.C08_member_by_member
