import FastgoModel.Container.Gzip
/-
  zlib container (RFC 1950) as compress/zlib/writer.go writes it and reader.go checks it.
-/
namespace Fastgo.Container
open Fastgo.Spec

/-- big-endian bytes -/
def be (n k : Nat) : List UInt8 := (le n k).reverse
def unbe (bs : List UInt8) : Nat := unle bs.reverse

@[simp] theorem be_length (n k : Nat) : (be n k).length = k := by simp [be]

theorem unbe_be (n k : Nat) (h : n < 256 ^ k) : unbe (be n k) = n := by
  simp [unbe, be, unle_le n k h]

/-- FLEVEL bits for a compression level (writer.go writeHeader) -/
def flevel (level : Int) : Nat :=
  if level = -2 ∨ level = 0 ∨ level = 1 then 0
  else if level = 2 ∨ level = 3 ∨ level = 4 ∨ level = 5 then 1
  else if level = 6 ∨ level = -1 then 2
  else 3

/-- second header byte: FLEVEL<<6 | FDICT<<5, plus FCHECK making the 16-bit header a multiple of 31 -/
def flgByte (level : Int) (hasDict : Bool) : Nat :=
  let b := flevel level * 64 + (if hasDict then 32 else 0)
  b + (31 - (0x78 * 256 + b) % 31)

def dictPart : Option (List UInt8) → List UInt8
  | some d => be (adler32 d) 4
  | none => []

def emitZHeader (level : Int) (dict : Option (List UInt8)) : List UInt8 :=
  [0x78, UInt8.ofNat (flgByte level dict.isSome)] ++ dictPart dict

inductive ZRes
  | ok (haveDict : Bool) (rest : List UInt8)
  | unexpectedEOF
  | badHeader
  | badDict
  deriving Repr

/-- reader.go Reset: header validation and dictionary id check -/
def parseZHeader (dict : Option (List UInt8)) (bs : List UInt8) : ZRes :=
  match takeN 2 bs with
  | none => .unexpectedEOF
  | some (h, r) =>
    match h with
    | [cmf, flg] =>
      if cmf.toNat % 16 ≠ 8 ∨ cmf.toNat / 16 > 7 ∨ (cmf.toNat * 256 + flg.toNat) % 31 ≠ 0 then .badHeader
      else if flg.toNat / 32 % 2 = 1 then
        match takeN 4 r with
        | none => .unexpectedEOF
        | some (id, r2) =>
          if unbe id ≠ adler32 (dict.getD []) then .badDict else .ok true r2
      else .ok false r
    | _ => .badHeader

/-- the 4-byte trailer: Adler-32 of the payload, big-endian -/
def emitZTrailer (payload : List UInt8) : List UInt8 := be (adler32 payload) 4

end Fastgo.Container
