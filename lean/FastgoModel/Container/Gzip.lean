import FastgoModel.Spec.Checksum
/-
  gzip container (RFC 1952) as compress/gzip/gzip.go writes it and ungzip.go parses it.
  Strings are modelled as their Latin-1 bytes (the Latin-1 <-> UTF-8 conversion of the Go code is
  glue validated by the harness, not modelled).
-/
namespace Fastgo.Container
open Fastgo.Spec

/-- little-endian bytes of `n`, `k` of them -/
def le (n : Nat) : Nat → List UInt8
  | 0 => []
  | k + 1 => UInt8.ofNat (n % 256) :: le (n / 256) k

def unle : List UInt8 → Nat
  | [] => 0
  | b :: r => b.toNat + 256 * unle r

@[simp] theorem le_length (n k : Nat) : (le n k).length = k := by
  induction k generalizing n with
  | zero => rfl
  | succ k ih => simp [le, ih]

theorem unle_le (n k : Nat) (h : n < 256 ^ k) : unle (le n k) = n := by
  induction k generalizing n with
  | zero => exact (Nat.lt_one_iff.mp h).symm
  | succ k ih =>
    rw [le, unle, UInt8.toNat_ofNat_of_lt' (Nat.mod_lt _ (by decide)),
      ih _ (Nat.div_lt_of_lt_mul (by rwa [Nat.mul_comm, ← Nat.pow_succ])), Nat.mod_add_div]

structure GzHeader where
  extra   : Option (List UInt8) := none   -- Header.Extra (nil / non-nil matters for FEXTRA)
  name    : List UInt8 := []              -- "" = absent
  comment : List UInt8 := []
  mtime   : Nat := 0                      -- 0 = not set
  os      : UInt8 := 255
  deriving DecidableEq, Repr

/-- what gzip.Writer accepts and gzip.Reader can represent -/
def GzHeader.WF (h : GzHeader) : Prop :=
  (∀ e, h.extra = some e → e.length ≤ 65535) ∧
  (0 : UInt8) ∉ h.name ∧ h.name.length ≤ 511 ∧
  (0 : UInt8) ∉ h.comment ∧ h.comment.length ≤ 511 ∧
  h.mtime < 2 ^ 32

def flagsOf (h : GzHeader) : Nat :=
  (if h.extra.isSome then 4 else 0) + (if h.name ≠ [] then 8 else 0) + (if h.comment ≠ [] then 16 else 0)

/-- XFL byte written for a level -/
def xflOf (level : Int) : UInt8 := if level = 9 then 2 else if level = 1 then 4 else 0

/-- the fixed 10 bytes: ID1 ID2 CM FLG MTIME(4, little-endian) XFL OS -/
def fixedPart (h : GzHeader) (level : Int) : List UInt8 :=
  [0x1f, 0x8b, 8, UInt8.ofNat (flagsOf h),
   UInt8.ofNat (h.mtime % 256), UInt8.ofNat (h.mtime / 256 % 256),
   UInt8.ofNat (h.mtime / 256 / 256 % 256), UInt8.ofNat (h.mtime / 256 / 256 / 256 % 256),
   xflOf level, h.os]

def extraBytes : Option (List UInt8) → List UInt8
  | some e => le e.length 2 ++ e
  | none => []

def extraPart (h : GzHeader) : List UInt8 := extraBytes h.extra

def strPart (s : List UInt8) : List UInt8 := if s ≠ [] then s ++ [0] else []

/-- the header bytes gzip.Writer emits before the deflate stream -/
def emitHeader (h : GzHeader) (level : Int) : List UInt8 :=
  fixedPart h level ++ (extraPart h ++ (strPart h.name ++ strPart h.comment))

inductive HRes (α : Type)
  | ok (v : α) (rest : List UInt8)
  | cleanEOF          -- no byte at all: "no further member"
  | unexpectedEOF
  | badHeader
  deriving Repr

/-- io.ReadFull of `n` bytes -/
def takeN (n : Nat) (bs : List UInt8) : Option (List UInt8 × List UInt8) :=
  if bs.length < n then none else some (bs.take n, bs.drop n)

theorem takeN_append_eq {n : Nat} {a : List UInt8} (h : a.length = n) (r : List UInt8) :
    takeN n (a ++ r) = some (a, r) := by
  simp [takeN, ← h]

/-- readString: bytes up to the first NUL, at most 511 of them.
    none = ran out of input; some none = too long (ErrHeader); some (some (s, rest)) -/
def readCStr : Nat → List UInt8 → List UInt8 → Option (Option (List UInt8 × List UInt8))
  | 0, _, _ => some none
  | _ + 1, [], _ => none
  | fuel + 1, b :: r, acc => if b = 0 then some (some (acc.reverse, r)) else readCStr fuel r (b :: acc)

theorem readCStr_spec (s rest acc : List UInt8) (fuel : Nat) (h0 : (0 : UInt8) ∉ s) (hl : s.length < fuel) :
    readCStr fuel (s ++ 0 :: rest) acc = some (some (acc.reverse ++ s, rest)) := by
  induction s generalizing acc fuel with
  | nil =>
    obtain ⟨f, rfl⟩ := Nat.exists_eq_add_one.mpr hl
    simp [readCStr]
  | cons b s ih =>
    obtain ⟨f, rfl⟩ := Nat.exists_eq_add_one.mpr (Nat.zero_lt_of_lt hl)
    simp only [List.mem_cons, not_or] at h0
    simp [readCStr, Ne.symm h0.1, ih (b :: acc) f h0.2 (Nat.lt_of_succ_lt_succ hl)]

def optStr (present : Bool) (bs : List UInt8) : HRes (List UInt8) :=
  if present then
    match readCStr 512 bs [] with
    | none => .unexpectedEOF
    | some none => .badHeader
    | some (some (s, r)) => .ok s r
  else .ok [] bs

def optExtra (present : Bool) (bs : List UInt8) : HRes (Option (List UInt8)) :=
  if present then
    match takeN 2 bs with
    | none => .unexpectedEOF
    | some (lenB, r) =>
      match takeN (unle lenB) r with
      | none => .unexpectedEOF
      | some (e, r2) => .ok (some e) r2
  else .ok none bs

def parseHeader (bs : List UInt8) : HRes GzHeader :=
  match takeN 10 bs with
  | none => if bs = [] then .cleanEOF else .unexpectedEOF
  | some (fixed, r0) =>
    match fixed with
    | [id1, id2, cm, flgB, m0, m1, m2, m3, _xfl, os] =>
      if id1 ≠ 0x1f ∨ id2 ≠ 0x8b ∨ cm ≠ 8 then .badHeader
      else
        let flg := flgB.toNat
        match optExtra (flg / 4 % 2 = 1) r0 with
        | .ok extra r1 =>
          match optStr (flg / 8 % 2 = 1) r1 with
          | .ok name r2 =>
            match optStr (flg / 16 % 2 = 1) r2 with
            | .ok comment r3 =>
              let hdr : GzHeader := { extra := extra, name := name, comment := comment, mtime := unle [m0, m1, m2, m3], os := os }
              if flg / 2 % 2 = 1 then
                -- FHCRC: low 16 bits of the CRC-32 of the header bytes read so far
                match takeN 2 r3 with
                | none => .unexpectedEOF
                | some (c, r4) =>
                  if unle c ≠ (crc32 (bs.take (bs.length - r3.length))).toNat % 65536 then .badHeader
                  else .ok hdr r4
              else .ok hdr r3
            | .badHeader => .badHeader
            | _ => .unexpectedEOF
          | .badHeader => .badHeader
          | _ => .unexpectedEOF
        | .badHeader => .badHeader
        | _ => .unexpectedEOF
    | _ => .badHeader

/-- the 8-byte trailer gzip.Writer.Close emits: CRC-32 then ISIZE, both little-endian -/
def emitTrailer (payload : List UInt8) : List UInt8 :=
  le (crc32 payload).toNat 4 ++ le (payload.length % 2 ^ 32) 4

end Fastgo.Container
