import FastgoModel.Spec.Inflate
import FastgoModel.Container.Readers
/-
  Sequences of gzip members (ungzip.go): default multistream mode and Multistream(false)+Reset.
  The inflater is abstracted as a pure function on the buffered source: it yields the payload and leaves
  the source exactly after the DEFLATE stream (that it does so is C02 + C05). `specInflater` is the specification
  inflater as such a function; `readZlib` is the zlib counterpart of `readOneMember`.
-/
namespace Fastgo.Container
open Fastgo.Spec

abbrev Inflater := List UInt8 → Option (List UInt8 × List UInt8)

/-- the inflater decodes `body` to `payload` and stops exactly at its end, whatever follows -/
def Inflater.Exact (I : Inflater) (body payload : List UInt8) : Prop :=
  ∀ rest, I (body ++ rest) = some (payload, rest)

/-- one gzip member as the Writers emit it -/
def gzMember (h : GzHeader) (level : Int) (body payload : List UInt8) : List UInt8 :=
  emitHeader h level ++ (body ++ emitTrailer payload)

/-- trailer check of Reader.Read -/
def trailerOK (t payload : List UInt8) : Bool :=
  unle (t.take 4) = (crc32 payload).toNat ∧ unle (t.drop 4) = payload.length % 2 ^ 32

/-- NewReader / Reset (parse one header) then read to io.EOF with Multistream(false):
    header, payload, and the source left after the trailer -/
def readOneMember (I : Inflater) (src : List UInt8) : Option (GzHeader × List UInt8 × List UInt8) :=
  match parseHeader src with
  | .ok h r0 =>
    match I r0 with
    | none => none
    | some (payload, after) =>
      match takeN 8 after with
      | none => none
      | some (t, r) => if trailerOK t payload then some (h, payload, r) else none
  | _ => none

/-- default mode: everything up to a clean end of the source; `none` = some error -/
def readAllMembers (I : Inflater) : Nat → List UInt8 → Option (List UInt8)
  | 0, _ => none
  | fuel + 1, src =>
    match readOneMember I src with
    | none => none
    | some (_, payload, r) =>
      if r = [] then some payload
      else match readAllMembers I fuel r with
        | none => none
        | some d => some (payload ++ d)

/-- the specification inflater as the inflater of the container Reader models: payload, and the source from the byte
    after the one holding the last bit of the final block -/
def specInflater (mode : Mode) : Inflater := fun src =>
  match inflate mode [] src with
  | .done out rest _ => some (out.toList, src.drop ((8 * src.length - rest.length + 7) / 8))
  | _ => none

/-- zlib.NewReader + Read to io.EOF (no preset dictionary) over an inflater: payload and what is left of the source -/
def readZlib (I : Inflater) (src : List UInt8) : Option (List UInt8 × List UInt8) :=
  match parseZHeader none src with
  | .ok false r0 =>
    match I r0 with
    | none => none
    | some (payload, after) =>
      match takeN 4 after with
      | none => none
      | some (t, r) => if unbe t = adler32 payload then some (payload, r) else none
  | _ => none

end Fastgo.Container
