import FastgoModel.Container.Zlib
/-
  The running checksum of the gzip Writer and Reader (gzip.go / ungzip.go): CRC-32 and size mod 2^32; every Write
  (Writer) or Read result (Reader) updates it with exactly the bytes of that call. (zlib's Adler-32 state is a field of
  the zlib models.)
-/
namespace Fastgo.Container
open Fastgo.Spec

/-- gzip Writer/Reader bookkeeping: (digest, size mod 2^32) -/
structure GzSum where
  digest : UInt32 := 0
  size   : Nat := 0
  deriving DecidableEq

def GzSum.update (s : GzSum) (p : List UInt8) : GzSum :=
  { digest := crc32Update s.digest p, size := (s.size + p.length) % 2 ^ 32 }

def GzSum.trailer (s : GzSum) : List UInt8 := le s.digest.toNat 4 ++ le s.size 4

theorem GzSum.update_append (s : GzSum) (a b : List UInt8) : (s.update a).update b = s.update (a ++ b) := by
  simp only [GzSum.update, crc32Update_append, List.length_append, Nat.mod_add_mod, Nat.add_assoc]

/-- the bookkeeping of a Writer or Reader that started fresh and has seen `D` -/
theorem GzSum.init_update (D : List UInt8) :
    ({} : GzSum).update D = { digest := crc32 D, size := D.length % 2 ^ 32 } := by
  simp [GzSum.update, crc32]

end Fastgo.Container
