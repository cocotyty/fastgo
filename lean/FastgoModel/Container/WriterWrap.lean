import FastgoModel.Writer.Control
import FastgoModel.Writer.HuffControl
import FastgoModel.Container.Zlib
import FastgoModel.Container.Digest
/-
  Control models of compress/zlib/writer.go and compress/gzip/gzip.go (Writer side) over an arbitrary inner
  DEFLATE Writer that shares the destination: header first (lazily, by whichever call comes first), sticky
  error, closed flag, running checksum, trailer after a successful inner Close.
-/
namespace Fastgo.CWriter
open Fastgo.Spec Fastgo.Writer Fastgo.Container

/-- the inner flate.Writer as the wrappers use it; it owns the destination, the wrapper writes its header and
    trailer through `dst` / `withDst` -/
structure InnerOps (ι : Type) where
  dst     : ι → Dst
  withDst : ι → Dst → ι
  write   : ι → List UInt8 → ι × OpRes
  flush   : ι → ι × OpRes
  close   : ι → ι × OpRes
  reset   : ι → Dst → ι

/-- one Write of the wrapper itself on the shared destination -/
def InnerOps.put {ι} (O : InnerOps ι) (i : ι) (chunk : List UInt8) : ι × Bool :=
  let (d, ok) := (O.dst i).write chunk
  (O.withDst i d, ok)

/-! ### zlib (no preset dictionary: dictionary Writers are compress/flate's own, see F-C01-1) -/

structure ZW (ι : Type) where
  inner       : ι
  level       : Int
  err         : Option Err := none
  wroteHeader : Bool := false
  closed      : Bool := false
  adler       : Nat × Nat := (1, 0)

/-- writeHeader: one destination write of the two header bytes -/
def zHeader {ι} (O : InnerOps ι) (z : ZW ι) : ZW ι :=
  if z.wroteHeader then z
  else
    match O.put z.inner (emitZHeader z.level none) with
    | (i, true) => { z with inner := i, wroteHeader := true, err := none }
    | (i, false) => { z with inner := i, wroteHeader := true, err := some .injected }

/-- Write once the header has been dealt with -/
def zWrite1 {ι} (O : InnerOps ι) (z1 : ZW ι) (p : List UInt8) : ZW ι × OpRes :=
  match z1.err with
  | some e => (z1, { n := 0, err := some e })
  | none =>
    if p = [] then (z1, {})
    else
      match O.write z1.inner p with
      | (i, r) =>
        match r.err with
        | some e => ({ z1 with inner := i, err := some e }, r)
        | none => ({ z1 with inner := i, adler := adlerUpdate z1.adler p }, r)

def zWrite {ι} (O : InnerOps ι) (z : ZW ι) (p : List UInt8) : ZW ι × OpRes := zWrite1 O (zHeader O z) p

def zFlush1 {ι} (O : InnerOps ι) (z1 : ZW ι) : ZW ι × OpRes :=
  match z1.err with
  | some e => (z1, { err := some e })
  | none =>
    match O.flush z1.inner with
    | (i, r) => ({ z1 with inner := i, err := r.err }, { err := r.err })

def zFlush {ι} (O : InnerOps ι) (z : ZW ι) : ZW ι × OpRes := zFlush1 O (zHeader O z)

def zClose1 {ι} (O : InnerOps ι) (z1 : ZW ι) : ZW ι × OpRes :=
  match z1.err with
  | some e => (z1, { err := some e })
  | none =>
    if z1.closed then (z1, {})
    else
      match O.close z1.inner with
      | (i, r) =>
        match r.err with
        | some e => ({ z1 with inner := i, closed := true, err := some e }, { err := some e })
        | none =>
          match O.put i (be (adlerValue z1.adler) 4) with
          | (i2, true) => ({ z1 with inner := i2, closed := true }, {})
          | (i2, false) => ({ z1 with inner := i2, closed := true, err := some .injected }, { err := some .injected })

def zClose {ι} (O : InnerOps ι) (z : ZW ι) : ZW ι × OpRes := zClose1 O (zHeader O z)

def zReset {ι} (O : InnerOps ι) (z : ZW ι) (d : Dst) : ZW ι :=
  { inner := O.reset z.inner d, level := z.level }

def zStep {ι} (O : InnerOps ι) (z : ZW ι) : Op → ZW ι × OpRes
  | .write p => zWrite O z p
  | .flush => zFlush O z
  | .close => zClose O z
  | .reset d => (zReset O z d, {})

def zRun {ι} (O : InnerOps ι) (z : ZW ι) : List Op → ZW ι × List OpRes
  | [] => (z, [])
  | op :: ops =>
    let (z1, r) := zStep O z op
    let (z2, rs) := zRun O z1 ops
    (z2, r :: rs)


/-! ### gzip -/

/-- the destination writes gzip.Writer makes for its header: 10 fixed bytes; FEXTRA length then bytes; each string
    then its NUL -/
def gzHeaderChunks (h : GzHeader) (level : Int) : List (List UInt8) :=
  [fixedPart h level] ++
  (match h.extra with | some e => [le e.length 2, e] | none => []) ++
  (if h.name ≠ [] then [h.name, [0]] else []) ++
  (if h.comment ≠ [] then [h.comment, [0]] else [])

theorem strChunks_flatten (s : List UInt8) : (if s ≠ [] then [s, [0]] else []).flatten = strPart s := by
  unfold strPart; split <;> simp

theorem gzHeaderChunks_flatten (h : GzHeader) (level : Int) :
    (gzHeaderChunks h level).flatten = emitHeader h level := by
  unfold gzHeaderChunks emitHeader extraPart
  rw [List.flatten_append, List.flatten_append, List.flatten_append, strChunks_flatten, strChunks_flatten]
  cases h.extra <;> simp [extraBytes]

/-- several wrapper writes, stopping at the first failure -/
def InnerOps.putAll {ι} (O : InnerOps ι) (i : ι) : List (List UInt8) → ι × Bool
  | [] => (i, true)
  | c :: cs =>
    match O.put i c with
    | (i1, true) => O.putAll i1 cs
    | (i1, false) => (i1, false)

structure GW (ι : Type) where
  inner       : ι
  level       : Int
  hdr         : GzHeader := {}
  err         : Option Err := none
  wroteHeader : Bool := false
  closed      : Bool := false
  sum         : GzSum := {}

/-- the lazily written header (inside the first Write, or the Write(nil) that Flush and Close issue) -/
def gHeader {ι} (O : InnerOps ι) (z : GW ι) : GW ι :=
  if z.wroteHeader then z
  else
    match O.putAll z.inner (gzHeaderChunks z.hdr z.level) with
    | (i, true) => { z with inner := i, wroteHeader := true }
    | (i, false) => { z with inner := i, wroteHeader := true, err := some .injected }

/-- Write after the header step: a header failure returns (0, err); otherwise size and CRC are updated and the
    data goes to the compressor, whose error (if any) becomes sticky -/
def gWrite1 {ι} (O : InnerOps ι) (z1 : GW ι) (p : List UInt8) : GW ι × OpRes :=
  match z1.err with
  | some e => (z1, { n := 0, err := some e })
  | none =>
    match O.write z1.inner p with
    | (i, r) => ({ z1 with inner := i, sum := z1.sum.update p, err := r.err }, r)

def gWrite {ι} (O : InnerOps ι) (z : GW ι) (p : List UInt8) : GW ι × OpRes :=
  match z.err with
  | some e => (z, { n := 0, err := some e })
  | none => gWrite1 O (gHeader O z) p

def gFlush1 {ι} (O : InnerOps ι) (z1 : GW ι) : GW ι × OpRes :=
  match z1.err with
  | some e => (z1, { err := some e })
  | none =>
    match O.flush z1.inner with
    | (i, r) => ({ z1 with inner := i, err := r.err }, { err := r.err })

def gFlush {ι} (O : InnerOps ι) (z : GW ι) : GW ι × OpRes :=
  match z.err with
  | some e => (z, { err := some e })
  | none =>
    if z.closed then (z, {})
    else gFlush1 O (if z.wroteHeader then z else (gWrite1 O (gHeader O z) []).1)

def gClose1 {ι} (O : InnerOps ι) (z1 : GW ι) : GW ι × OpRes :=
  match z1.err with
  | some e => (z1, { err := some e })
  | none =>
    match O.close z1.inner with
    | (i, r) =>
      match r.err with
      | some e => ({ z1 with inner := i, err := some e }, { err := some e })
      | none =>
        match O.put i z1.sum.trailer with
        | (i2, true) => ({ z1 with inner := i2 }, {})
        | (i2, false) => ({ z1 with inner := i2, err := some .injected }, { err := some .injected })

def gClose {ι} (O : InnerOps ι) (z : GW ι) : GW ι × OpRes :=
  match z.err with
  | some e => (z, { err := some e })
  | none =>
    if z.closed then (z, {})
    else
      gClose1 O (if z.wroteHeader then { z with closed := true }
                 else (gWrite1 O (gHeader O { z with closed := true }) []).1)

/-- Reset = init(w, level): everything but the level and the (reset) compressor returns to its zero value, the
    Header fields included -/
def gReset {ι} (O : InnerOps ι) (z : GW ι) (d : Dst) : GW ι :=
  { inner := O.reset z.inner d, level := z.level }

def gStep {ι} (O : InnerOps ι) (z : GW ι) : Op → GW ι × OpRes
  | .write p => gWrite O z p
  | .flush => gFlush O z
  | .close => gClose O z
  | .reset d => (gReset O z d, {})

def gRun {ι} (O : InnerOps ι) (z : GW ι) : List Op → GW ι × List OpRes
  | [] => (z, [])
  | op :: ops =>
    let (z1, r) := gStep O z op
    let (z2, rs) := gRun O z1 ops
    (z2, r :: rs)


/-! the flate Writers of the repository as inner Writers, and the wrappers as NewWriter builds them -/

/-- flate.Writer over the dynamic compressor (levels 1, 2, default) -/
def dynOps {MF Tok : Type} (L : DynLeaves MF Tok) (c : Cfg) : InnerOps (WState MF Tok) where
  dst := fun w => w.dst
  withDst := fun w d => { w with dst := d }
  write := fun w p => Writer.write L c w p
  flush := fun w => Writer.flush L c w
  close := fun w => Writer.close L c w
  reset := fun w d => Writer.reset L w d

/-- flate.Writer over the Huffman-only compressor (level -2) -/
def huffOps {σ : Type} (L : HuffLeaf σ) (max : Nat) : InnerOps (HState σ) where
  dst := fun w => w.dst
  withDst := fun w d => { w with dst := d }
  write := fun w p => hWrite L max w p
  flush := fun w => hFlush L w
  close := fun w => hClose L w
  reset := fun w d => hReset w d

def ZW.init {ι : Type} (i : ι) (level : Int) : ZW ι := { inner := i, level := level }

def GW.init {ι : Type} (i : ι) (level : Int) (h : GzHeader) : GW ι := { inner := i, level := level, hdr := h }

end Fastgo.CWriter
