/-
  Bit-level view of a byte string (RFC 1951 section 3.1.1): bytes are read LSB first;
  Huffman codes are packed MSB first, every other field LSB first.
-/
namespace Fastgo.Spec

abbrev Bits := List Bool

/-- the 8 bits of a byte, least significant first -/
def byteBits (b : UInt8) : Bits :=
  (List.range 8).map fun i => b.toNat.testBit i

def bytesToBits (bs : List UInt8) : Bits := bs.flatMap byteBits

/-- value of a little-endian bit field -/
def bitsToNat : Bits → Nat
  | [] => 0
  | b :: r => (if b then 1 else 0) + 2 * bitsToNat r

/-- `n` as a little-endian field of `w` bits -/
def natToBits (n : Nat) : Nat → Bits
  | 0 => []
  | w + 1 => (n % 2 == 1) :: natToBits (n / 2) w

/-- take a `w`-bit little-endian field; `none` when fewer than `w` bits remain -/
def takeField (w : Nat) (bs : Bits) : Option (Nat × Bits) :=
  if bs.length < w then none else some (bitsToNat (bs.take w), bs.drop w)

@[simp] theorem natToBits_length (n w : Nat) : (natToBits n w).length = w := by
  induction w generalizing n with
  | zero => rfl
  | succ w ih => simp [natToBits, ih]

theorem bitsToNat_natToBits (n w : Nat) (h : n < 2 ^ w) : bitsToNat (natToBits n w) = n := by
  induction w generalizing n with
  | zero => simp [natToBits, bitsToNat]; omega
  | succ w ih =>
    simp only [natToBits, bitsToNat]
    have h2 : n / 2 < 2 ^ w := by
      rw [Nat.pow_succ] at h; omega
    rw [ih _ h2]
    by_cases hb : n % 2 = 1
    · simp [hb]; omega
    · have : n % 2 = 0 := by omega
      simp [this]; omega

theorem takeField_natToBits (n w : Nat) (h : n < 2 ^ w) (r : Bits) :
    takeField w (natToBits n w ++ r) = some (n, r) := by
  unfold takeField
  simp [bitsToNat_natToBits n w h]

theorem byteBits_length (b : UInt8) : (byteBits b).length = 8 := by simp [byteBits]

theorem bytesToBits_length (bs : List UInt8) : (bytesToBits bs).length = 8 * bs.length := by
  induction bs with
  | nil => rfl
  | cons b r ih => simp [bytesToBits, List.flatMap_cons, byteBits_length] at *; omega

theorem bytesToBits_append (a b : List UInt8) : bytesToBits (a ++ b) = bytesToBits a ++ bytesToBits b := by
  simp [bytesToBits]

theorem natToBits_eq_testBit (n w : Nat) : natToBits n w = (List.range w).map fun i => n.testBit i := by
  induction w generalizing n with
  | zero => rfl
  | succ w ih =>
    rw [natToBits, ih, List.range_succ_eq_map, List.map_cons, List.map_map]
    congr 1
    · simp only [Nat.testBit_zero]
      by_cases h : n % 2 = 1 <;> simp [h]
    · apply List.map_congr_left
      intro i _
      simp [Nat.testBit_succ]

theorem byteBits_eq (b : UInt8) : byteBits b = natToBits b.toNat 8 := by
  rw [natToBits_eq_testBit]; rfl

theorem natToBits_bitsToNat (bs : Bits) : natToBits (bitsToNat bs) bs.length = bs := by
  induction bs with
  | nil => rfl
  | cons b r ih =>
    simp only [bitsToNat, List.length_cons, natToBits]
    cases b with
    | true =>
      have h1 : (1 + 2 * bitsToNat r) % 2 = 1 := by omega
      have h2 : (1 + 2 * bitsToNat r) / 2 = bitsToNat r := by omega
      simp [h1, h2, ih]
    | false => simp [ih]

theorem bitsToNat_lt (bs : Bits) : bitsToNat bs < 2 ^ bs.length := by
  induction bs with
  | nil => simp [bitsToNat]
  | cons b r ih =>
    simp only [bitsToNat, List.length_cons, Nat.pow_succ]
    cases b <;> simp <;> omega

theorem byteBits_ofBits (b8 : Bits) (h : b8.length = 8) : byteBits (UInt8.ofNat (bitsToNat b8)) = b8 := by
  rw [byteBits_eq]
  have hlt : bitsToNat b8 < 256 := by have := bitsToNat_lt b8; rw [h] at this; exact this
  have : (UInt8.ofNat (bitsToNat b8)).toNat = bitsToNat b8 := by
    simp [UInt8.toNat_ofNat']; omega
  rw [this, ← h, natToBits_bitsToNat]

theorem bitsToNat_append (a b : Bits) : bitsToNat (a ++ b) = bitsToNat a + 2 ^ a.length * bitsToNat b := by
  induction a with
  | nil => simp [bitsToNat]
  | cons x a ih =>
    simp only [List.cons_append, bitsToNat, ih, List.length_cons, Nat.pow_succ]
    rw [Nat.mul_add, Nat.mul_comm (2 ^ a.length) 2, Nat.mul_assoc]
    omega

theorem takeField_append (w : Nat) (a r : Bits) (h : a.length = w) : takeField w (a ++ r) = some (bitsToNat a, r) := by
  unfold takeField
  simp [h]

theorem takeField_frame {w : Nat} {bs : Bits} {v : Nat} {r : Bits} (t : Bits)
    (h : takeField w bs = some (v, r)) : takeField w (bs ++ t) = some (v, r ++ t) := by
  unfold takeField at h ⊢
  split at h
  · cases h
  · cases h
    rw [if_neg (by rw [List.length_append]; omega), List.take_append_of_le_length (by omega),
      List.drop_append_of_le_length (by omega)]

end Fastgo.Spec
