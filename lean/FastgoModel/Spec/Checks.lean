import FastgoModel.Spec.Inflate
/-
  The executable checks of the E and S correspondences at the level of the specification: run the specification inflater
  on exactly the bits one real block-encoder call (`checkBlock`) or one real Writer (`checkStream`) produced. What a
  passed check means is proved in Proofs/BlockFrame.lean and Proofs/StreamFrame.lean.
-/
namespace Fastgo.Spec

def pfB (code : List (Nat × Bits)) : Bool :=
  code.all fun a => code.all fun b => a.2.isEmpty || b.2.isEmpty || !(a.2.isPrefixOf b.2) || decide (a = b)

/-- the code-length-code lengths a dynamic header declares (`[]` when the header is too short to tell) -/
def headerCl (bs : Bits) : List Nat :=
  match takeField 5 bs with
  | none => []
  | some (_, r1) =>
  match takeField 5 r1 with
  | none => []
  | some (_, r2) =>
  match takeField 4 r2 with
  | none => []
  | some (hclen, r3) =>
    match readClLens (hclen + 4) clOrder r3 (List.replicate 19 0) with
    | none => []
    | some (cl, _) => cl

/-- the Huffman codes the block at the head of `bs` declares are prefix-free (fixed-code and stored blocks: nothing
    to check, the fixed code is prefix-free by `fixLit_prefixFree` / `fixDist_prefixFree`) -/
def blockCodesPF (mode : Mode) (bs : Bits) : Bool :=
  match takeField 1 bs with
  | none => false
  | some (_, r0) =>
  match takeField 2 r0 with
  | none => false
  | some (btype, r1) =>
    if btype = 2 then
      pfB (canonical (headerCl r1)) &&
        (match readDynHeader mode r1 with
         | .ok ll dl _ => pfB (canonical ll) && pfB (canonical dl)
         | _ => false)
    else true

/-- run the specification inflater on the bits `B` alone: they must be exactly one block with the given BFINAL that
    extends `h` by `x`, and the codes it declares must be prefix-free -/
def checkBlock (mode : Mode) (pos : Nat) (B : Bits) (final : Bool) (h : Array UInt8) (x : List UInt8) : Bool :=
  blockCodesPF mode B &&
  match inflateBlock mode pos B h {} with
  | .next f o r _ => f == final && r.isEmpty && decide (o = h ++ x.toArray)
  | _ => false

/-- every block of the stream declares prefix-free codes -/
def streamPF (mode : Mode) : Nat → Nat → Bits → Array UInt8 → Bool
  | 0, _, _, _ => false
  | fuel + 1, pos, bs, out =>
    blockCodesPF mode bs &&
    match inflateBlock mode pos bs out {} with
    | .next final o r _ => if final then true else streamPF mode fuel (pos + (bs.length - r.length)) r o
    | _ => false

/-- the executable check on a whole stream: decodes to the end, every block with prefix-free codes -/
def checkStream (mode : Mode) (bytes : List UInt8) : Bool :=
  streamPF mode ((bytesToBits bytes).length + 1) 0 (bytesToBits bytes) #[] &&
  match inflate mode [] bytes with
  | .done _ rest _ => decide (rest.length < 8)
  | _ => false

end Fastgo.Spec
