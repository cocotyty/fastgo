import FastgoModel.Spec.Bits
/-
  Canonical Huffman codes as RFC 1951 section 3.2.2 defines them, and decoding by first match.
-/
namespace Fastgo.Spec

/-- number of codes of length `l` (length 0 means "symbol not used") -/
def blCount (lens : List Nat) (l : Nat) : Nat := if l = 0 then 0 else lens.count l

/-- RFC `next_code[l]` before any code of length `l` has been handed out -/
def firstCode (lens : List Nat) : Nat → Nat
  | 0 => 0
  | l + 1 => (firstCode lens l + blCount lens l) * 2

/-- how many earlier symbols have the same length as symbol `i` -/
def rank (lens : List Nat) (i : Nat) : Nat := (lens.take i).count (lens.getD i 0)

/-- numeric code of symbol `i` -/
def codeOf (lens : List Nat) (i : Nat) : Nat := firstCode lens (lens.getD i 0) + rank lens i

/-- a code of `len` bits, most significant bit first (the order in which it is transmitted) -/
def codeBits (code len : Nat) : Bits := (natToBits code len).reverse

/-- the canonical code: (symbol, codeword) for every used symbol, in symbol order -/
def canonical (lens : List Nat) : List (Nat × Bits) :=
  (List.range lens.length).filterMap fun i =>
    if lens.getD i 0 = 0 then none else some (i, codeBits (codeOf lens i) (lens.getD i 0))

/-- Kraft sum scaled by 2^L -/
def kraft (lens : List Nat) (L : Nat) : Nat :=
  (lens.filter (· ≠ 0)).foldl (fun a l => a + 2 ^ (L - l)) 0

def usedCount (lens : List Nat) : Nat := (lens.filter (· ≠ 0)).length

/-- first-match decoding against an explicit code list -/
def decodeWith {α} : List (α × Bits) → Bits → Option (α × Bits)
  | [], _ => none
  | (s, cw) :: rest, bs =>
    if cw ≠ [] ∧ cw <+: bs then some (s, bs.drop cw.length) else decodeWith rest bs

def PrefixFree {α} (code : List (α × Bits)) : Prop :=
  ∀ a ∈ code, ∀ b ∈ code, a.2 ≠ [] → b.2 ≠ [] → a.2 <+: b.2 → a = b

theorem decodeWith_encode {α} (code : List (α × Bits)) (hpf : PrefixFree code)
    (s : α) (cw : Bits) (hmem : (s, cw) ∈ code) (hne : cw ≠ []) (r : Bits) :
    decodeWith code (cw ++ r) = some (s, r) := by
  induction code with
  | nil => cases hmem
  | cons hd tl ih =>
    obtain ⟨s', cw'⟩ := hd
    unfold decodeWith
    by_cases hc : cw' ≠ [] ∧ cw' <+: cw ++ r
    · rw [if_pos hc]
      have hpre : cw' <+: cw ∨ cw <+: cw' :=
        List.prefix_or_prefix_of_prefix hc.2 (List.prefix_append cw r)
      have heq : (s', cw') = (s, cw) := by
        cases hpre with
        | inl h => exact hpf (s', cw') (List.mem_cons_self) (s, cw) hmem hc.1 hne h
        | inr h => exact (hpf (s, cw) hmem (s', cw') (List.mem_cons_self) hne hc.1 h).symm
      cases heq
      simp
    · rw [if_neg hc]
      have hmem' : (s, cw) ∈ tl := by
        cases hmem with
        | head => exact absurd ⟨hne, List.prefix_append cw r⟩ hc
        | tail _ h => exact h
      exact ih (fun a ha b hb => hpf a (List.mem_cons_of_mem _ ha) b (List.mem_cons_of_mem _ hb)) hmem'

theorem decodeWith_some {α} {code : List (α × Bits)} {bs : Bits} {s : α} {r : Bits}
    (h : decodeWith code bs = some (s, r)) :
    ∃ cw, (s, cw) ∈ code ∧ cw ≠ [] ∧ bs = cw ++ r := by
  induction code with
  | nil => simp [decodeWith] at h
  | cons hd tl ih =>
    obtain ⟨s', cw'⟩ := hd
    unfold decodeWith at h
    by_cases hc : cw' ≠ [] ∧ cw' <+: bs
    · rw [if_pos hc] at h
      simp only [Option.some.injEq, Prod.mk.injEq] at h
      obtain ⟨t, ht⟩ := hc.2
      refine ⟨cw', ?_, hc.1, ?_⟩
      · rw [← h.1]; exact List.mem_cons_self
      · rw [← h.2, ← ht]; simp
    · rw [if_neg hc] at h
      obtain ⟨cw, hm, hne, he⟩ := ih h
      exact ⟨cw, List.mem_cons_of_mem _ hm, hne, he⟩

end Fastgo.Spec
