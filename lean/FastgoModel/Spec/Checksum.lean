/-
  CRC-32 (IEEE 802.3, reflected, polynomial 0xEDB88320) and Adler-32, as running checksums with the
  update interface of hash/crc32.Update and hash/adler32.
-/
namespace Fastgo.Spec

def crcStepBit (c : UInt32) : UInt32 :=
  if c &&& 1 = 1 then (c >>> 1) ^^^ 0xEDB88320 else c >>> 1

def crcStepByte (c : UInt32) (b : UInt8) : UInt32 :=
  let c0 := c ^^^ b.toUInt32
  crcStepBit (crcStepBit (crcStepBit (crcStepBit (crcStepBit (crcStepBit (crcStepBit (crcStepBit c0)))))))

/-- crc32.Update(crc, IEEETable, bs) -/
def crc32Update (crc : UInt32) (bs : List UInt8) : UInt32 :=
  ~~~ (bs.foldl crcStepByte (~~~ crc))

def crc32 (bs : List UInt8) : UInt32 := crc32Update 0 bs

theorem crc32Update_append (c : UInt32) (a b : List UInt8) :
    crc32Update (crc32Update c a) b = crc32Update c (a ++ b) := by
  simp [crc32Update, List.foldl_append]

theorem crc32Update_nil (c : UInt32) : crc32Update c [] = c := by
  simp [crc32Update]

/-- Adler-32 state (a, b), both kept mod 65521 -/
def adlerStep (s : Nat × Nat) (x : UInt8) : Nat × Nat :=
  let a := (s.1 + x.toNat) % 65521
  (a, (s.2 + a) % 65521)

def adlerUpdate (s : Nat × Nat) (bs : List UInt8) : Nat × Nat := bs.foldl adlerStep s

def adlerValue (s : Nat × Nat) : Nat := s.2 * 65536 + s.1

def adler32 (bs : List UInt8) : Nat := adlerValue (adlerUpdate (1, 0) bs)

theorem adlerUpdate_append (s : Nat × Nat) (a b : List UInt8) :
    adlerUpdate (adlerUpdate s a) b = adlerUpdate s (a ++ b) := by
  simp [adlerUpdate, List.foldl_append]

theorem adlerUpdate_lt (s : Nat × Nat) (bs : List UInt8) (h : s.1 < 65521 ∧ s.2 < 65521) :
    (adlerUpdate s bs).1 < 65521 ∧ (adlerUpdate s bs).2 < 65521 := by
  induction bs generalizing s with
  | nil => exact h
  | cons b r ih => exact ih _ ⟨Nat.mod_lt _ (by decide), Nat.mod_lt _ (by decide)⟩

theorem adler32_lt (bs : List UInt8) : adler32 bs < 256 ^ 4 := by
  have := adlerUpdate_lt (1, 0) bs (by decide)
  unfold adler32 adlerValue
  omega

/-- A running checksum fed chunk by chunk has seen the concatenation of the chunks. Stated for any `f` with the
    append law, so that it serves CRC-32, Adler-32 and the gzip (CRC, size) pair alike. -/
theorem foldl_chunks {σ α : Type} (f : σ → List α → σ) (happ : ∀ s a b, f (f s a) b = f s (a ++ b))
    (s : σ) (a : List α) (ps : List (List α)) : ps.foldl f (f s a) = f s (a ++ ps.flatten) := by
  induction ps generalizing a with
  | nil => simp
  | cons p ps ih => rw [List.foldl_cons, happ, ih, List.flatten_cons, List.append_assoc]

end Fastgo.Spec
