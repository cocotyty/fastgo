import FastgoModel.Spec.Inflate
/-
  The executable check of the F correspondence: one complete session of the REAL Reader (any acceleration level, any
  source chunking, any Read sizes) is judged by the specification inflater directly — not through compress/flate.
  This is the leaf contract `Reader.Faithful` (Proofs/ReaderDelivery.lean) observed end to end: what was delivered is a
  prefix of what the specification decodes from the same bytes; io.EOF only for a complete stream, completely
  delivered, with the source left exactly behind the final block; a stream that is only cut is never called corrupt
  and a corrupt one is never called complete.
-/
namespace Fastgo.Reader
open Fastgo.Spec

inductive EndKind | eof | unexpectedEOF | corrupt
  deriving DecidableEq, Repr

def _root_.Fastgo.Spec.Result.out : Result → Array UInt8
  | .done o _ _ => o
  | .needMore o _ _ _ => o
  | .corrupt o _ _ => o

def _root_.Fastgo.Spec.Result.isDone : Result → Bool
  | .done .. => true
  | _ => false

def _root_.Fastgo.Spec.Result.isNeedMore : Result → Bool
  | .needMore .. => true
  | _ => false

/-- bytes of the source a Reader must have consumed after io.EOF: up to the end of the byte holding the last bit of
    the final block -/
def consumedAtEOF (src : List UInt8) (r : Result) : Nat :=
  match r with
  | .done _ rest _ => (8 * src.length - rest.length + 7) / 8
  | _ => 0

/-- `src`: everything the source holds (the stream and whatever follows it); `delivered`: the concatenation of what
    the Read calls returned; `k`: the final error; `consumed`: bytes taken from a `*bufio.Reader` source at that point;
    `cutOfValid`: the harness built `src` as a proper prefix of a valid stream (then CorruptInputError is wrong; for
    other inputs on which the sequential specification merely runs out of bits the Reader may already have seen that no
    continuation can be valid — e.g. a zero run that passes the declared count whatever its missing extra bits say —
    and both io.ErrUnexpectedEOF and CorruptInputError meet C03) -/
def checkFaithful (src delivered : List UInt8) (k : EndKind) (consumed : Nat) (cutOfValid : Bool := false) : Bool :=
  let p := inflate .permissive [] src
  let s := inflate .strict [] src
  delivered.isPrefixOf p.out.toList &&
  match k with
  | .eof => p.isDone && delivered.length == p.out.size && consumed == consumedAtEOF src p
  | .unexpectedEOF => !p.isDone
  | .corrupt => !s.isDone && !cutOfValid

theorem checkFaithful_prefix (src delivered : List UInt8) (k : EndKind) (consumed : Nat) (cut : Bool)
    (h : checkFaithful src delivered k consumed cut = true) :
    delivered <+: (inflate .permissive [] src).out.toList := by
  unfold checkFaithful at h
  simp only [Bool.and_eq_true] at h
  exact List.isPrefixOf_iff_prefix.mp h.1

/-- io.EOF passes the check only for a complete stream, completely delivered, source exactly behind the final block -/
theorem checkFaithful_eof (src delivered : List UInt8) (consumed : Nat) (cut : Bool)
    (h : checkFaithful src delivered .eof consumed cut = true) :
    ∃ out rest st, inflate .permissive [] src = .done out rest st ∧ delivered = out.toList ∧
      consumed = (8 * src.length - rest.length + 7) / 8 := by
  have hp := checkFaithful_prefix src delivered .eof consumed cut h
  unfold checkFaithful at h
  simp only [Bool.and_eq_true, beq_iff_eq] at h
  obtain ⟨_, ⟨hd, hl⟩, hc⟩ := h
  cases hr : inflate .permissive [] src with
  | needMore o r s a => rw [hr] at hd; cases hd
  | corrupt o r s => rw [hr] at hd; cases hd
  | done o r s =>
    rw [hr] at hl hc hp
    exact ⟨o, r, s, rfl, hp.eq_of_length (by simpa using hl), hc⟩

/-- a stream the strict specification accepts is never called corrupt, nor is a cut valid stream -/
theorem checkFaithful_corrupt (src delivered : List UInt8) (consumed : Nat) (cut : Bool)
    (h : checkFaithful src delivered .corrupt consumed cut = true) :
    (inflate .strict [] src).isDone = false ∧ cut = false := by
  unfold checkFaithful at h
  simp only [Bool.and_eq_true, Bool.not_eq_true'] at h
  exact ⟨h.2.1, h.2.2⟩

end Fastgo.Reader
